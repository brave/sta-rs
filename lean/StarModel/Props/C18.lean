/-
C18 — The reference aggregation server outputs exactly the measurements reported by ≥ threshold
clients, each once, with exactly the associated data those clients attached, independent of the
order of the reports and of the number of worker threads.

Clause kinds. (U): the characterisation of `retrieve_outputs` on every multiset of honest reports,
for every permutation `F`; invariance under reordering. (W): a client attaching EMPTY associated
data is reported as having attached none — the recorded deviation from "exactly the data those
clients attached" (known finding `empty_aux_reported_as_none`); every statement below is exact
about it through `normAux`.

The model has no threads: `retrieve_outputs` is `into_par_iter().map().map().collect()`, an
order-preserving map of a pure function over the buckets, so its value is a function of the input
list alone; the only scheduling-like freedom in the Rust code is the iteration order of the
`HashMap` of buckets, which the theorems quantify away by stating the output up to permutation.
The `agg` correspondence stream and the C18 oracle run the real server in pools of 1..16 threads.
-/
import StarModel.Lemmas.Skeleton
import StarModel.Lemmas.Agg
import StarModel.Props.C01

namespace StarModel.Props.C18
open StarModel.Star StarModel.Agg

/-- a client: its measurement, its associated data (or absence) and the share point its OS RNG drew -/
structure Client where
  m : Bytes
  aux : Option Bytes
  x : Nat
  deriving DecidableEq

/-- the tag all clients of measurement `m` send -/
def tagOf (F : Perm) (epoch : String) (t : Nat) (m : Bytes) : Bytes :=
  deriveRandom F (sampleLocalRandomness F m (Bytes.ofString epoch) t) 2

/-- the clients that reported `m`, in arrival order -/
def group (clients : List Client) (m : Bytes) : List Client := clients.filter fun c => c.m = m

/-- the specified output, in order of first appearance of the measurements: every measurement
reported by at least `t` clients, once, with the (normalised) associated data of exactly its
clients in arrival order -/
def expected (t : Nat) (clients : List Client) : List (Bytes × List (Option Bytes)) :=
  ((firstKeys (clients.map (·.m))).filter fun m => t ≤ (group clients m).length).map fun m =>
    (m, (group clients m).map fun c => normAux c.aux)

/-- honest reports of one epoch and threshold: `rep c` is the report client `c` generates with
locally derived randomness; (H1) share points within one measurement group are pairwise distinct
(OS RNG; measured by the C04 oracle); (H2) the tag map is injective on the measurements present
(else: a STROBE collision, `C04_distinct_randomness` / `C04_distinct_derived`); (H3) sizes fit
the `u32` length prefixes and share points are canonical field elements -/
structure Honest (F : Perm) (fuel : Nat) (epoch : String) (t : Nat) (clients : List Client)
    (rep : Client → Message) : Prop where
  gen : ∀ c ∈ clients, generate F fuel c.m (Bytes.ofString epoch) t
    (sampleLocalRandomness F c.m (Bytes.ofString epoch) t) c.aux c.x = some (.ok (rep c))
  distinct : ∀ m, ((group clients m).map (·.x)).Nodup
  tagInj : ∀ c ∈ clients, ∀ c' ∈ clients, tagOf F epoch t c.m = tagOf F epoch t c'.m → c.m = c'.m
  sizes : ∀ c ∈ clients, c.m.length < 2 ^ 32 ∧ (∀ a, c.aux = some a → a.length < 2 ^ 32) ∧ c.x < Fp.p

theorem mem_group {clients : List Client} {m : Bytes} {c : Client} :
    c ∈ group clients m ↔ c ∈ clients ∧ c.m = m := by
  unfold group; simp

theorem bucket (F : Perm) (fuel : Nat) (epoch : String) (t : Nat) (ht : 1 ≤ t)
    (clients : List Client) (rep : Client → Message) (h : Honest F fuel epoch t clients rep)
    (m : Bytes) (hlen : t ≤ (group clients m).length) :
    recoverMeasurements F epoch ((group clients m).map rep) =
      .ok (m, (group clients m).map fun c => normAux c.aux) := by
  have hne : group clients m ≠ [] := List.ne_nil_of_length_pos (by omega)
  have hin : ∀ c ∈ group clients m, c ∈ clients ∧ c.m = m := fun c => mem_group.mp
  obtain ⟨c0, hc0⟩ := List.exists_mem_of_ne_nil _ hne
  -- C01 with the clients indexed by themselves, all of them selected
  obtain ⟨hrec, hdec⟩ := C01.C01_recover_and_decrypt_of (·.aux) (·.x) F fuel m (Bytes.ofString epoch) t ht
    (sampleLocalRandomness F m (Bytes.ofString epoch) t) (group clients m) rep
    (fun c hc => (hin c hc).2 ▸ h.gen c (hin c hc).1)
    (fun c hc => (h.sizes c (hin c hc).1).2.2)
    ((hin c0 hc0).2 ▸ (h.sizes c0 (hin c0 hc0).1).1)
    (fun c hc => (h.sizes c (hin c hc).1).2.1)
    (group clients m) (fun _ hc => hc)
    (by rw [List.toFinset_card_of_nodup (h.distinct m), List.length_map]; exact hlen)
  exact recoverMeasurements_map F epoch _ hne rep (·.aux) _ m hrec hdec

theorem collect_honest (F : Perm) (fuel : Nat) (epoch : String) (t : Nat)
    (clients : List Client) (rep : Client → Message) (h : Honest F fuel epoch t clients rep) :
    collectMessages (clients.map rep) =
      (firstKeys (clients.map (·.m))).map fun m => (group clients m).map rep := by
  -- a report's tag is `tagOf` of its measurement, a relabelling injective on the measurements present
  unfold collectMessages
  exact collectBy_map_of_injOn (·.tag) rep (·.m) (tagOf F epoch t) clients
    (fun c hc => by obtain ⟨_, -, hr⟩ := generate_ok_iff.mp (h.gen c hc); rw [hr]; rfl) h.tagInj

/-- (U) **Characterisation, exact form.** On honest reports the model server (which yields buckets
in order of first appearance) returns exactly `expected`. -/
theorem C18_exact (F : Perm) (fuel : Nat) (epoch : String) (t : Nat) (ht : 1 ≤ t)
    (clients : List Client) (rep : Client → Message) (h : Honest F fuel epoch t clients rep) :
    retrieveOutputs F t epoch (clients.map rep) = .ok (expected t clients) := by
  unfold retrieveOutputs filterMessages expected
  rw [collect_honest F fuel epoch t clients rep h, List.filter_map]
  simp only [Function.comp_def, List.length_map]
  refine mapOutcome_map_map_ok _ _ _ _ fun m hm => ?_
  rw [bucket F fuel epoch t ht clients rep h m (by simpa using (List.mem_filter.mp hm).2)]

theorem mem_expected {t : Nat} (ht : 1 ≤ t) {clients : List Client}
    {o : Bytes × List (Option Bytes)} :
    o ∈ expected t clients ↔
      t ≤ (group clients o.1).length ∧ o.2 = (group clients o.1).map fun c => normAux c.aux := by
  obtain ⟨m, l⟩ := o
  simp only [expected, List.mem_map, List.mem_filter, mem_firstKeys, decide_eq_true_eq, Prod.mk.injEq]
  constructor
  · rintro ⟨m, ⟨-, hl⟩, rfl, rfl⟩
    exact ⟨hl, rfl⟩
  · rintro ⟨hl, rfl⟩
    obtain ⟨c, hc⟩ := List.exists_mem_of_length_pos (Nat.lt_of_lt_of_le ht hl)
    exact ⟨m, ⟨⟨c, mem_group.mp hc⟩, hl⟩, rfl, rfl⟩

/-- (U) **Characterisation.** Given ANY list of honest reports for one epoch and threshold `t ≥ 1`
(hypotheses H1–H3 of `Honest`), `retrieve_outputs` does not panic and returns `outs`, a permutation
of the specified output `expected` — the order of `outs` is the `HashMap` iteration order in the
code and is left unspecified — such that: every measurement occurs at most once; a measurement
occurs iff at least `t` clients reported it (nothing for smaller groups); and its entry lists the
associated data of exactly its clients, in arrival order, through `normAux` (`some []` ↦ `none`). -/
theorem C18_characterisation (F : Perm) (fuel : Nat) (epoch : String) (t : Nat) (ht : 1 ≤ t)
    (clients : List Client) (rep : Client → Message) (h : Honest F fuel epoch t clients rep) :
    ∃ outs, retrieveOutputs F t epoch (clients.map rep) = .ok outs ∧
      outs.Perm (expected t clients) ∧
      (outs.map (·.1)).Nodup ∧
      (∀ m, m ∈ outs.map (·.1) ↔ t ≤ (clients.filter fun c => c.m = m).length) ∧
      (∀ o ∈ outs, o.2 = (clients.filter fun c => c.m = o.1).map fun c => normAux c.aux) := by
  refine ⟨_, C18_exact F fuel epoch t ht clients rep h, .refl _,
    by simpa [expected, Function.comp_def] using (firstKeys_nodup (clients.map (·.m))).filter _,
    fun m => ⟨fun hm => ?_, fun hl => ?_⟩, fun o ho => ((mem_expected ht).mp ho).2⟩
  · obtain ⟨o, ho, rfl⟩ := List.mem_map.mp hm
    exact ((mem_expected ht).mp ho).1
  · exact List.mem_map.mpr ⟨(m, (group clients m).map fun c => normAux c.aux),
      (mem_expected ht).mpr ⟨hl, rfl⟩, rfl⟩

theorem honest_perm {F : Perm} {fuel : Nat} {epoch : String} {t : Nat}
    {clients clients' : List Client} {rep : Client → Message}
    (h : Honest F fuel epoch t clients rep) (hp : clients'.Perm clients) :
    Honest F fuel epoch t clients' rep where
  gen := fun c hc => h.gen c (hp.mem_iff.mp hc)
  distinct := fun m => ((hp.filter _).map _).nodup_iff.mpr (h.distinct m)
  tagInj := fun c hc c' hc' => h.tagInj c (hp.mem_iff.mp hc) c' (hp.mem_iff.mp hc')
  sizes := fun c hc => h.sizes c (hp.mem_iff.mp hc)

/-- the output as a multiset of (measurement, multiset of associated data) -/
def canon (outs : List (Bytes × List (Option Bytes))) : Multiset (Bytes × Multiset (Option Bytes)) :=
  ((outs.map fun o => (o.1, (o.2 : Multiset (Option Bytes)))) : List _)

theorem canon_expected_perm (t : Nat) (clients clients' : List Client)
    (hp : clients'.Perm clients) :
    canon (expected t clients') = canon (expected t clients) := by
  have hg : ∀ m, (group clients' m).Perm (group clients m) := fun m => hp.filter _
  have hkeys : (firstKeys (clients'.map (·.m))).Perm (firstKeys (clients.map (·.m))) :=
    (List.perm_ext_iff_of_nodup (firstKeys_nodup _) (firstKeys_nodup _)).mpr fun m => by
      rw [mem_firstKeys, mem_firstKeys]; exact (hp.map _).mem_iff
  -- the two lists differ by the order of the keys and, per key, by the order within the group
  have haux : ∀ m, (((group clients' m).map fun c => normAux c.aux : List _) : Multiset (Option Bytes)) =
      ((group clients m).map fun c => normAux c.aux : List _) := fun m => Quotient.sound ((hg m).map _)
  unfold canon expected
  simp only [List.map_map, Function.comp_def, (hg _).length_eq, haux]
  exact Quotient.sound ((hkeys.filter _).map _)

/-- (U) **Order and scheduling independence.** Feeding the server ANY permutation `reports'` of
the honest reports yields (without panic) an output equal to the original one as a multiset of
`(measurement, multiset of associated data)` pairs — multiset equality at both levels. The result
is thus a function of the input multiset only. The number of rayon workers cannot enter: the model
has no threads (file header). -/
theorem C18_perm_invariant (F : Perm) (fuel : Nat) (epoch : String) (t : Nat) (ht : 1 ≤ t)
    (clients : List Client) (rep : Client → Message) (h : Honest F fuel epoch t clients rep)
    (reports' : List Message) (hp : reports'.Perm (clients.map rep)) :
    ∃ outs outs', retrieveOutputs F t epoch (clients.map rep) = .ok outs ∧
      retrieveOutputs F t epoch reports' = .ok outs' ∧ canon outs' = canon outs := by
  have := congrFun (congrFun (List.eq_map_comp_perm rep) reports') clients
  obtain ⟨clients', hr, hpc⟩ := this.mpr hp
  subst hr
  exact ⟨_, _, C18_exact F fuel epoch t ht clients rep h,
    C18_exact F fuel epoch t ht clients' rep (honest_perm h hpc),
    canon_expected_perm t clients clients' hpc⟩

/-- (W) **Empty associated data is reported as absent** (known finding
`empty_aux_reported_as_none`): a client that attaches `Some(vec![])` to a measurement that reaches
the threshold appears in the output with `None` at its position — indistinguishable from a client
that attached nothing. -/
theorem C18_empty_aux_reported_absent (F : Perm) (fuel : Nat) (epoch : String) (t : Nat) (ht : 1 ≤ t)
    (clients : List Client) (rep : Client → Message) (h : Honest F fuel epoch t clients rep)
    (c : Client) (hc : c ∈ clients) (haux : c.aux = some [])
    (hlen : t ≤ (clients.filter fun c' => c'.m = c.m).length) :
    ∃ outs o, ∃ i : Nat, retrieveOutputs F t epoch (clients.map rep) = .ok outs ∧ o ∈ outs ∧ o.1 = c.m ∧
      (clients.filter fun c' => c'.m = c.m)[i]? = some c ∧ o.2[i]? = some none := by
  have hcg : c ∈ group clients c.m := mem_group.mpr ⟨hc, rfl⟩
  obtain ⟨i, hi⟩ := List.getElem?_of_mem hcg
  exact ⟨expected t clients, (c.m, (group clients c.m).map fun c => normAux c.aux), i,
    C18_exact F fuel epoch t ht clients rep h, (mem_expected ht).mpr ⟨hlen, rfl⟩, rfl, hi,
    by rw [List.getElem?_map, hi, Option.map_some, haux]; rfl⟩

/-- H1 from pairwise distinct `(measurement, share point)` pairs -/
theorem C18_distinct_of_nodup_pairs (clients : List Client)
    (h : (clients.map fun c => (c.m, c.x)).Nodup) (m : Bytes) :
    ((group clients m).map (·.x)).Nodup := by
  have h1 : ((group clients m).map fun c => (c.m, c.x)).Nodup := h.sublist (List.filter_sublist.map _)
  exact h1.of_map.map_on fun c hc c' hc' hx => List.inj_on_of_nodup_map h1 hc hc'
    (by rw [(mem_group.mp hc).2, (mem_group.mp hc').2, hx])

/-! ### non-vacuity: identity permutation, threshold 2, epoch "" -/

def repId (c : Client) : Message :=
  match generate id 8 c.m (Bytes.ofString "") 2 (sampleLocalRandomness id c.m (Bytes.ofString "") 2) c.aux c.x with
  | some (.ok r) => r
  | _ => ⟨[], ⟨0, ⟨0, []⟩, [], [], []⟩, []⟩

theorem C18_repId_gen (c : Client)
    (h : (match generate id 8 c.m (Bytes.ofString "") 2
        (sampleLocalRandomness id c.m (Bytes.ofString "") 2) c.aux c.x with
      | some (.ok _) => true
      | _ => false) = true) :
    generate id 8 c.m (Bytes.ofString "") 2 (sampleLocalRandomness id c.m (Bytes.ofString "") 2) c.aux
        c.x =
      some (.ok (repId c)) := by
  rw [repId]
  split at h
  · rename_i r hr; rw [hr]
  · cases h

def sampleClients : List Client :=
  [⟨[5], some [], 4⟩, ⟨[6], some [7], 3⟩, ⟨[5], none, 3⟩, ⟨[6], some [8, 9], 9⟩, ⟨[7], some [1], 3⟩]

theorem sampleClients_m : ∀ c ∈ sampleClients, c.m ∈ [[5], [6], [7]] := by decide

/-- one evaluation per measurement: the coefficients are drawn within the fuel; by `generate_eq` every
client of it then generates a report, whatever its data and share point -/
theorem sampleClients_gen (c : Client) (hc : c ∈ sampleClients) :
    generate id 8 c.m (Bytes.ofString "") 2 (sampleLocalRandomness id c.m (Bytes.ofString "") 2) c.aux c.x =
      some (.ok (repId c)) := by
  have hm : ∀ m ∈ [[5], [6], [7]], (Adss.coeffs id 8 none 2
      (deriveRandom id (sampleLocalRandomness id m (Bytes.ofString "") 2) 0)
      (deriveRandom id (sampleLocalRandomness id m (Bytes.ofString "") 2) 1)).isSome = true := by
    decide +kernel
  obtain ⟨cs, hcs⟩ := Option.isSome_iff_exists.mp (hm c.m (sampleClients_m c hc))
  exact C18_repId_gen c (by rw [generate_eq, hcs]; rfl)

/-- the hypotheses of the characterisation are satisfiable: five clients, three measurements -/
theorem sampleClients_honest : Honest id 8 "" 2 sampleClients repId where
  gen := sampleClients_gen
  distinct := C18_distinct_of_nodup_pairs _ (by decide +kernel)
  tagInj := fun c hc c' hc' => List.inj_on_of_nodup_map (f := tagOf id "" 2) (l := [[5], [6], [7]])
    (by decide +kernel) (sampleClients_m c hc) (sampleClients_m c' hc')
  sizes := by decide +kernel

example : Honest id 8 "" 2 sampleClients repId := sampleClients_honest

-- on them the model server returns the two measurements with ≥ 2 clients, `some []` shown as `none`
example : retrieveOutputs id 2 "" (sampleClients.map repId) =
    .ok [([5], [none, none]), ([6], [some [7], some [8, 9]])] :=
  (C18_exact id 8 "" 2 (by decide) sampleClients repId sampleClients_honest).trans
    (congrArg Outcome.ok (by decide +kernel))
example : expected 2 sampleClients = [([5], [none, none]), ([6], [some [7], some [8, 9]])] := by decide +kernel
-- the deviation on the smallest input: threshold 1, one client attaching `Some(vec![])`
example : (match generate id 8 [5] (Bytes.ofString "e") 1 (sampleLocalRandomness id [5] (Bytes.ofString "e") 1) (some []) 3 with
    | some (.ok r) => some (retrieveOutputs id 1 "e" [r])
    | _ => none) = some (.ok [([5], [none])]) := by
  -- `C18_exact` for the single client; the evaluation only finds that the report is generated
  obtain ⟨r, hr⟩ := Outcome.exists_ok_of_any (o := generate id 8 [5] (Bytes.ofString "e") 1
    (sampleLocalRandomness id [5] (Bytes.ofString "e") 1) (some []) 3)
    (by rw [generate_eq, Option.any_map]; decide +kernel)
  have hh : Honest id 8 "e" 1 [⟨[5], some [], 3⟩] fun _ => r :=
    { gen := List.forall_mem_singleton.mpr hr
      distinct := fun m => by unfold group; by_cases h : ([5] : Bytes) = m <;> simp [h]
      tagInj := fun c hc c' hc' _ => by rw [List.mem_singleton.mp hc, List.mem_singleton.mp hc']
      sizes := List.forall_mem_singleton.mpr
        ⟨by decide, fun a ha => by cases ha; decide, by decide +kernel⟩ }
  rw [hr]
  exact congrArg some ((C18_exact id 8 "e" 1 le_rfl _ _ hh).trans (congrArg Outcome.ok (by decide +kernel)))
-- panics of the real server are reproduced: `t` copies of ONE report pass the filter and do not recover
example : (retrieveOutputs id 2 "" ([(⟨[5], none, 3⟩ : Client), ⟨[5], none, 3⟩].map repId)).isPanic = true := by
  decide +kernel

end StarModel.Props.C18
