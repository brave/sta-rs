/-
C17 — The WASM string API: `create_share` returns well-formed JSON carrying exactly what the core
library derives; `group_shares` returns the clients' key from ≥ threshold distinct shares of one
measurement and nothing from fewer; a different epoch never yields the clients' key.

Clause kinds. (U): well-formedness and content of the JSON, recovery at/above the threshold, refusal
below it, totality (no panic on ANY pair of strings). (R): "a different epoch yields a different
key" reduces to a STROBE collision on the two key-derivation transcripts.
The base64 codec is the specification-level model `StarModel.Base64` of the third-party crate; its
round trip is `Base64.decodeChars_encodeChars` (stated for the property as `C15_base64_roundtrip`).
-/
import StarModel.Lemmas.Skeleton
import StarModel.Lemmas.Transcript
import StarModel.Lemmas.Wasm
import StarModel.Props.C02

namespace StarModel.Props.C17
open StarModel.Star StarModel.Wasm

/-- (U) **`group_shares` never panics**, whatever the two strings contain. -/
theorem C17_group_never_panics (F : Perm) (serializedShares epoch : String) (w : String) :
    groupShares F serializedShares epoch ≠ .panic w := by
  rw [groupShares_eq]
  nofun

/-- (U) `create_share` neither panics nor takes its `""` error path: the model's `none` is
exhaustion of the sampling fuel and nothing else. -/
theorem C17_create_share_total (F : Perm) (fuel : Nat) (m : Bytes) (t : Nat) (epoch : String) (x : Nat) :
    (∀ w, createShareOutcome F fuel m t epoch x ≠ some (.panic w)) ∧
    createShareOutcome F fuel m t epoch x ≠ some (.ok "") ∧
    (createShare F fuel m t epoch x = none ↔
      shareWithLocalRandomness F fuel m (epochBytes epoch) t x = none) := by
  rw [createShare, createShareOutcome, swlr_eq]
  cases Adss.coeffs F fuel none t _ _ <;> simp [formatJson_ne_empty]

/-- (U) **Well-formed JSON with the library's values.** Whenever `create_share` returns, the
returned text is literally `{"key": "K", "share": "S", "tag": "T"}` where `K`, `S`, `T` are the
base64 encodings of the key, the encoded share and the tag that `share_with_local_randomness`
derives for the same measurement, threshold, epoch bytes and share point; the key has 16 bytes, the
tag 32, the share bytes are accepted by `Share::from_bytes` and decode to the same share; and the
three base64 texts consist of alphabet symbols and `=` only — in particular they contain neither
`"` nor `\`, so the text is a JSON object with exactly these three string members. -/
theorem C17_create_share_wellformed (F : Perm) (fuel : Nat) (m : Bytes) (t : Nat) (ht32 : t < 2 ^ 32)
    (epoch : String) (x : Nat) (hx : x < Fp.p) (s : String)
    (h : createShare F fuel m t epoch x = some s) :
    ∃ key share tag,
      shareWithLocalRandomness F fuel m (epochBytes epoch) t x = some (.ok (key, share, tag)) ∧
      s = "{\"key\": \"" ++ Base64.encode key ++ "\", \"share\": \"" ++ Base64.encode share.toBytes ++
          "\", \"tag\": \"" ++ Base64.encode tag ++ "\"}" ∧
      key.length = 16 ∧ tag.length = 32 ∧
      Adss.Share.fromBytes share.toBytes = .ok share ∧
      (∀ b ∈ [key, share.toBytes, tag], ∀ c ∈ (Base64.encode b).toList,
        Base64.Sym.IsSymbol c ∧ c ≠ '"' ∧ c ≠ '\\' ∧ c ≠ '\n') := by
  rw [createShare, createShareOutcome, swlr_eq] at h
  rw [swlr_eq]
  cases hcs : Adss.coeffs F fuel none t _ _ with
  | none => rw [hcs] at h; cases h
  | some cs =>
    rw [hcs] at h
    refine ⟨_, _, _, rfl, (Option.some.inj h).symm, deriveSkeKey_length F _ _, deriveRandom_length F _ 2,
      derived_share_roundtrip F ht32 _ cs hx, fun b _ c hc => ?_⟩
    rw [Base64.encode, String.toList_ofList] at hc
    exact ⟨Base64.Sym.encodeChars_symbols b c hc, (Base64.Sym.encodeChars_symbols b c hc).ne⟩

/-- (U) **The fields decode.** The three members of the returned object decode
(`BASE64_STANDARD.decode`) to the library's 16-byte key, to bytes that `Share::from_bytes` accepts
as the library's share, and to the library's 32-byte tag. -/
theorem C17_create_share_fields_decode (F : Perm) (fuel : Nat)
    (m : Bytes) (t : Nat) (ht32 : t < 2 ^ 32) (epoch : String) (x : Nat) (hx : x < Fp.p) (s : String)
    (h : createShare F fuel m t epoch x = some s) :
    ∃ K S T key share tag, s = formatJson K S T ∧
      shareWithLocalRandomness F fuel m (epochBytes epoch) t x = some (.ok (key, share, tag)) ∧
      Base64.decode K = some key ∧ key.length = 16 ∧
      (∃ sb, Base64.decode S = some sb ∧ Adss.Share.fromBytes sb = .ok share) ∧
      Base64.decode T = some tag ∧ tag.length = 32 := by
  obtain ⟨key, share, tag, hs, hfmt, hk, htag, hrt, _⟩ :=
    C17_create_share_wellformed F fuel m t ht32 epoch x hx s h
  exact ⟨_, _, _, key, share, tag, hfmt, hs, Base64.decode_encode key, hk,
    ⟨_, Base64.decode_encode _, hrt⟩, Base64.decode_encode tag, htag⟩

/-- clients of one `(measurement, epoch, threshold)`: what the client with share point `x` obtains
from `share_with_local_randomness` (equivalently, by `C17_create_share_fields_decode`, what the
three base64 fields of its `create_share` text decode to) -/
def Clients (F : Perm) (fuel : Nat) (m : Bytes) (epoch : String) (t : Nat) (xs : List Nat)
    (key : Nat → Bytes) (share : Nat → Adss.Share) (tag : Nat → Bytes) : Prop :=
  ∀ x ∈ xs, shareWithLocalRandomness F fuel m (epochBytes epoch) t x = some (.ok (key x, share x, tag x))

/-- the text handed to `group_shares`: the clients' base64 `share` fields joined by newlines -/
def joined (share : Nat → Adss.Share) (xs : List Nat) : String :=
  "\n".intercalate (xs.map fun x => Base64.encode (share x).toBytes)

/-- **`group_shares` on honest input, decided.** Clients of one `(measurement, epoch, threshold)`
with share points `xs` (any order, repeats, possibly none), their base64 shares joined by newlines,
and ANY epoch string `epoch'`: the call returns the base64 of `derive_ske_key(r₀, epoch')` if
`1 ≤ threshold ≤ number of distinct points`, and nothing otherwise. -/
theorem C17_group_clients (F : Perm) (fuel : Nat) (m : Bytes) (t : Nat) (ht32 : t < 2 ^ 32)
    (epoch epoch' : String) (xs : List Nat) (hx : ∀ x ∈ xs, x < Fp.p)
    (key : Nat → Bytes) (share : Nat → Adss.Share) (tag : Nat → Bytes)
    (hcl : Clients F fuel m epoch t xs key share tag) :
    groupShares F (joined share xs) epoch' =
      if 1 ≤ t ∧ t ≤ xs.toFinset.card then
        .ok (some (Base64.encode (deriveSkeKey F
          (deriveRandom F (sampleLocalRandomness F m (epochBytes epoch) t) 0) (epochBytes epoch'))))
      else .ok none := by
  cases xs with
  | nil => rw [if_neg fun h => nomatch h.1.trans h.2]; exact groupShares_joined F [] share nofun epoch'
  | cons x0 xr =>
    -- the first client's material fixes the coefficients; every client's share is then a point of one dealing
    obtain ⟨cs, hcs, -⟩ := swlr_ok_iff.mp (hcl x0 List.mem_cons_self)
    simp only [Clients, swlr_eq, hcs, Option.map_some, Option.some.injEq, Outcome.ok.injEq, Prod.mk.injEq] at hcl
    have heq := List.map_congr_left fun y hy => (hcl y hy).2.1.symm
    rw [joined, groupShares_joined F _ share (fun y hy => by
      rw [← (hcl y hy).2.1]; exact derived_share_roundtrip F ht32 _ cs (hx y hy)), shareRecover, heq]
    split_ifs with h
    · rw [Adss.recover_honest F h.1 _ _ (Adss.coeffs_spec hcs).1 _ hx h.2]
    · -- the count gate of `recover`, read backwards
      cases hr : Adss.recover F _ with
      | ok c =>
        exact absurd (by simpa only [List.map_cons, List.map_map, Function.comp_def, Sharks.evaluate,
          List.map_id'] using C02.C02_count_gate F _ _ c hr) h
      | _ => rfl

/-- (U) **At or above the threshold.** Clients of one `(measurement, epoch, threshold)` with share
points `xs` — any order, repeats allowed — among which at least `threshold` are distinct: on their
base64 shares joined by newlines and the clients' epoch, `group_shares` returns the base64 of the
16-byte key EVERY contributing client holds. -/
theorem C17_group_ok (F : Perm) (fuel : Nat)
    (m : Bytes) (t : Nat) (ht : 1 ≤ t) (ht32 : t < 2 ^ 32) (epoch : String)
    (xs : List Nat) (hx : ∀ x ∈ xs, x < Fp.p) (hc : t ≤ xs.toFinset.card)
    (key : Nat → Bytes) (share : Nat → Adss.Share) (tag : Nat → Bytes)
    (hcl : Clients F fuel m epoch t xs key share tag) :
    ∀ x ∈ xs, groupShares F (joined share xs) epoch = .ok (some (Base64.encode (key x))) := by
  intro x hxs
  obtain ⟨_, -, hr⟩ := swlr_ok_iff.mp (hcl x hxs)
  rw [C17_group_clients F fuel m t ht32 epoch epoch xs hx key share tag hcl, if_pos ⟨ht, hc⟩, (Prod.mk.inj hr).1]

/-- (U) **Below the threshold.** The same clients, but fewer than `threshold` distinct share points
(an empty collection and collections padded with repeats included): `group_shares` returns
nothing. -/
theorem C17_group_below (F : Perm) (fuel : Nat)
    (m : Bytes) (t : Nat) (ht32 : t < 2 ^ 32) (epoch epoch' : String)
    (xs : List Nat) (hx : ∀ x ∈ xs, x < Fp.p) (hc : xs.toFinset.card < t)
    (key : Nat → Bytes) (share : Nat → Adss.Share) (tag : Nat → Bytes)
    (hcl : Clients F fuel m epoch t xs key share tag) :
    groupShares F (joined share xs) epoch' = .ok none := by
  rw [C17_group_clients F fuel m t ht32 epoch epoch' xs hx key share tag hcl, if_neg (by omega)]

/-- two different STROBE operation lists whose final outputs agree on their first `n` bytes: the
event a `n`-byte key collision amounts to (for `n = 32`, the whole digest, this is
`Strobe.Collision`) -/
def TruncatedCollision (F : Perm) (n : Nat) (ops ops' : List Strobe.Op) : Prop :=
  ops ≠ ops' ∧ ((Strobe.runOps F (Strobe.init F) ops).2.getLastD []).take n =
    ((Strobe.runOps F (Strobe.init F) ops').2.getLastD []).take n

/-- (R) **A different epoch.** The clients' shares (at least `threshold` distinct) handed to
`group_shares` together with ANY other epoch string: the call returns the base64 of
`k' = derive_ske_key(r₀, epoch')`; if that text equals the key text of ANY client, then the two
key-derivation transcripts — different operation lists — collide on the 16 bytes that make the key. -/
theorem C17_group_wrong_epoch (F : Perm) (fuel : Nat)
    (m : Bytes) (t : Nat) (ht : 1 ≤ t) (ht32 : t < 2 ^ 32) (epoch epoch' : String)
    (hep : epoch' ≠ epoch)
    (xs : List Nat) (hx : ∀ x ∈ xs, x < Fp.p) (hc : t ≤ xs.toFinset.card)
    (key : Nat → Bytes) (share : Nat → Adss.Share) (tag : Nat → Bytes)
    (hcl : Clients F fuel m epoch t xs key share tag) :
    groupShares F (joined share xs) epoch' = .ok (some (Base64.encode (deriveSkeKey F
      (deriveRandom F (sampleLocalRandomness F m (epochBytes epoch) t) 0) (epochBytes epoch')))) ∧
    ∀ x ∈ xs, Base64.encode (deriveSkeKey F
        (deriveRandom F (sampleLocalRandomness F m (epochBytes epoch) t) 0) (epochBytes epoch')) =
        Base64.encode (key x) →
      TruncatedCollision F Params.starSkeKeyLen
        (skeOps (deriveRandom F (sampleLocalRandomness F m (epochBytes epoch) t) 0) (epochBytes epoch'))
        (skeOps (deriveRandom F (sampleLocalRandomness F m (epochBytes epoch) t) 0) (epochBytes epoch)) := by
  refine ⟨by rw [C17_group_clients F fuel m t ht32 epoch epoch' xs hx key share tag hcl, if_pos ⟨ht, hc⟩], ?_⟩
  intro x hxs he
  obtain ⟨_, -, hr⟩ := swlr_ok_iff.mp (hcl x hxs)
  have hk := Base64.encode_injective he
  rw [(Prod.mk.inj hr).1, deriveSkeKey, deriveSkeKey, strobeDigest_eq_runOps, strobeDigest_eq_runOps] at hk
  exact ⟨fun h => hep (epochBytes_injective _ _ (skeOps_injective _ _ _ _ h).2), hk⟩

/-- (R) in particular: no collision on the full 32-byte pre-keys' first half ⇒ the returned key
text differs from every client's -/
theorem C17_group_wrong_epoch_differs (F : Perm) (fuel : Nat)
    (m : Bytes) (t : Nat) (ht : 1 ≤ t) (ht32 : t < 2 ^ 32) (epoch epoch' : String)
    (hep : epoch' ≠ epoch)
    (xs : List Nat) (hx : ∀ x ∈ xs, x < Fp.p) (hc : t ≤ xs.toFinset.card)
    (key : Nat → Bytes) (share : Nat → Adss.Share) (tag : Nat → Bytes)
    (hcl : Clients F fuel m epoch t xs key share tag)
    (hnc : ¬ TruncatedCollision F Params.starSkeKeyLen
        (skeOps (deriveRandom F (sampleLocalRandomness F m (epochBytes epoch) t) 0) (epochBytes epoch'))
        (skeOps (deriveRandom F (sampleLocalRandomness F m (epochBytes epoch) t) 0) (epochBytes epoch))) :
    ∀ x ∈ xs, groupShares F (joined share xs) epoch' ≠ .ok (some (Base64.encode (key x))) := by
  obtain ⟨h1, h2⟩ := C17_group_wrong_epoch F fuel m t ht ht32 epoch epoch' hep xs hx hc key share tag hcl
  exact fun x hxs he => hnc (h2 x hxs (Option.some.inj (Outcome.ok.inj (h1.symm.trans he))))

/-- (U) **Whatever `group_shares` returns came through the count gate.** For EVERY pair of strings:
if a key text is returned then every newline-separated chunk is base64 of an accepted share, the
collection recovers to a commune `c`, the text is the base64 of `derive_ske_key(c.M, epoch)`, and
the collection holds at least `thr ≥ 1` DISTINCT share points where `thr` is the threshold recorded
in the first share. So a collection — of one measurement or mixed — with fewer distinct points than
that threshold yields nothing. -/
theorem C17_group_some_count_gate (F : Perm) (text epoch k : String)
    (h : groupShares F text epoch = .ok (some k)) :
    ∃ s0 rest c,
      List.Forall₂ (fun chunk s => ∃ bs, Base64.decodeChars chunk = some bs ∧ Adss.Share.fromBytes bs = .ok s)
        (splitNL text.toList) (s0 :: rest) ∧
      Adss.recover F (s0 :: rest) = .ok c ∧
      k = Base64.encode (deriveSkeKey F c.M (epochBytes epoch)) ∧
      1 ≤ s0.thr ∧ s0.thr ≤ ((s0 :: rest).map (·.S.x)).toFinset.card := by
  rw [groupShares_eq, Outcome.ok.injEq, Option.bind_eq_some_iff] at h
  obtain ⟨shares, hd, hk⟩ := h
  split at hk
  · rename_i c hr
    cases shares with
    | nil => cases hr
    | cons s0 rest =>
      exact ⟨s0, rest, c, ((mapM_eq_some_iff _ _ _).mp hd).imp fun _ _ => (chunkShare_eq_some_iff _ _).mp,
        hr, (Option.some.inj hk).symm, C02.C02_count_gate F s0 rest c hr⟩
  · cases hk

/-- (R) **Mixed collections.** Any text whatsoever whose FIRST chunk is the share of a client of
`(measurement, epoch, threshold)` — followed by shares of other measurements, thresholds, epochs,
altered shares, in any number: whatever `group_shares` returns is the key of that first client's
measurement under the given epoch, or the collection exhibits a collision of the ADSS MAC on two
different `(threshold, message, coins)` triples. With `C17_group_some_count_gate`: a collection
in which no measurement reaches its threshold yields nothing, the key of the first share's
measurement (only possible when the foreign points interpolate to its 128-bit sharing key — an
event whose frequency the oracle measures on the implementation), or a MAC collision. -/
theorem C17_group_mixed (F : Perm) (fuel : Nat) (m : Bytes) (t : Nat) (epoch epoch' : String) (x0 : Nat)
    (key0 tag0 : Bytes) (share0 : Adss.Share)
    (hcl : shareWithLocalRandomness F fuel m (epochBytes epoch) t x0 = some (.ok (key0, share0, tag0)))
    (text k : String) (bs0 : Bytes) (chunks : List (List Char))
    (hsplit : splitNL text.toList = chunks) (hne : chunks.head? = some (Base64.encodeChars bs0))
    (hb0 : Base64.decodeChars (Base64.encodeChars bs0) = some bs0)
    (hs0 : Adss.Share.fromBytes bs0 = .ok share0)
    (h : groupShares F text epoch' = .ok (some k)) :
    k = Base64.encode (deriveSkeKey F (deriveRandom F (sampleLocalRandomness F m (epochBytes epoch) t) 0)
      (epochBytes epoch')) ∨
    ∃ c : Adss.Commune, C05.MacCollision F (c.thr, c.M, c.R)
      (t, deriveRandom F (sampleLocalRandomness F m (epochBytes epoch) t) 0,
        deriveRandom F (sampleLocalRandomness F m (epochBytes epoch) t) 1) := by
  obtain ⟨s0, rest, c, hf, hr, hk, -⟩ := C17_group_some_count_gate F text epoch' k h
  rw [hsplit] at hf
  cases hf with
  | cons hhead _ =>
    -- the first chunk decodes to `bs0`, hence to `share0`, whose tag and threshold are the honest ones
    obtain ⟨bs, hbs, hfb⟩ := hhead
    cases Option.some.inj hne
    cases hb0.symm.trans hbs
    cases hs0.symm.trans hfb
    obtain ⟨cs, -, hr0⟩ := swlr_ok_iff.mp hcl
    cases hr0
    exact (C05.C05_message_or_collision F t _ _ _ rest rfl rfl c hr).imp (fun hc => by rw [hk, hc])
      fun hc => ⟨c, hc⟩

/-! ### non-vacuity: identity permutation, fuel 8 -/

-- the exact text `create_share` returns for the empty measurement, threshold 1, epoch "", point 1
example : createShare id 8 [] 1 "" 1 = some
    "{\"key\": \"AbhzdmESDCcwMBIpE25LWA==\", \"share\": \"AQAAADAAAAABAAAAAAAAAAAAAAAAAAAAAAAAAAAAAAABuHN2YRIMJzAwEikTbktYAAAAAAAAAAAgAAAAAAAAAAAAAAAAAAAAAAAAAGNvfQUGFAQAAAAAAAAAAAAgAAAAAbhzdmESDCcwMBIpE25LWCE4EQQAAAAAAAAAAAAAAAABuHN2YRIMJzAwEikTbktYQldsAQYUBAAAAAAAAAAAAGwNJxAEAAAAAAAAAAAADQYvBAAAAAAAAAAAAAAAAAAA\", \"tag\": \"AbhzdmESDCcwMBIpE25LWEJXbAEGFAQAAAAAAAAAAAA=\"}" := by
  rw [createShare_eq_some_iff, String.toList_ofList]
  decide +kernel

def matId (x : Nat) : Bytes × Adss.Share × Bytes :=
  match shareWithLocalRandomness id 8 [5] (epochBytes "e") 2 x with
  | some (.ok r) => r
  | _ => ([], ⟨0, ⟨0, []⟩, [], [], []⟩, [])

theorem matId_eq {x : Nat} {r : Bytes × Adss.Share × Bytes}
    (h : shareWithLocalRandomness id 8 [5] (epochBytes "e") 2 x = some (.ok r)) : matId x = r := by
  -- rewrites the unapplied `matId`: on `matId x = match …` the kernel would evaluate the sharing to reduce
  -- the `match`
  rw [show matId = _ from by delta matId; rfl, h]

/-- the one evaluation behind the next example: the coefficients are drawn within the fuel (`swlr_eq`); every
point shares them (`swlr_ok_iff`) -/
theorem matId_ok : ∃ r, shareWithLocalRandomness id 8 [5] (epochBytes "e") 2 3 = some (.ok r) :=
  Outcome.exists_ok_of_any (by rw [swlr_eq, Option.any_map]; decide +kernel)

-- the hypotheses of `C17_group_ok` / `C17_group_below` are satisfiable (three entries, two distinct)
example : Clients id 8 [5] "e" 2 [3, 4, 3] (fun x => (matId x).1) (fun x => (matId x).2.1) (fun x => (matId x).2.2) := by
  obtain ⟨_, h0⟩ := matId_ok
  obtain ⟨cs, hcs, -⟩ := swlr_ok_iff.mp h0
  intro x _
  have hx := (swlr_ok_iff (x := x)).mpr ⟨cs, hcs, rfl⟩
  simp only [matId_eq hx]
  exact hx

-- character level: the joined text of two distinct shares decodes to them; they recover the key, two copies
-- of one do not
example : (match shareWithLocalRandomness id 8 [5] (epochBytes "e") 2 3,
      shareWithLocalRandomness id 8 [5] (epochBytes "e") 2 4 with
    | some (.ok (k, a, _)), some (.ok (_, b, _)) =>
      some (decide (decodeChunks (splitNL (Base64.encodeChars b.toBytes ++ '\n' :: Base64.encodeChars a.toBytes)) =
          .ok (some [b, a])),
        (match shareRecover id [b, a] with | .ok c => decide (deriveSkeKey id c.M (epochBytes "e") = k) | _ => false),
        (match shareRecover id [a, a] with | .err _ => true | _ => false))
    | _, _ => none) = some (true, true, true) := by decide +kernel

-- string level, threshold 1: `group_shares` on a client's `share` field returns its `key` field
example : (match shareWithLocalRandomness id 8 [5] (epochBytes "e") 1 3 with
    | some (.ok (k, a, _)) =>
      some (decide (groupShares id (Base64.encode a.toBytes) "e" = .ok (some (Base64.encode k))))
    | _ => none) = some true := by
  -- `C17_group_ok` for the single point 3; the evaluation only finds that the sharing succeeds
  obtain ⟨⟨k, a, tg⟩, h⟩ := Outcome.exists_ok_of_any
    (o := shareWithLocalRandomness id 8 [5] (epochBytes "e") 1 3) (by rw [swlr_eq, Option.any_map]; decide +kernel)
  have := C17_group_ok id 8 [5] 1 le_rfl (by norm_num) "e" [3] (by decide +kernel) (by simp)
    (fun _ => k) (fun _ => a) (fun _ => tg) (by intro x hx; rw [List.mem_singleton.mp hx]; exact h) 3 (by simp)
  rw [h]
  exact congrArg some (decide_eq_true this)

-- `split('\n')`: empty input is one empty chunk, a trailing newline yields a trailing empty chunk
example : splitNL [] = [[]] ∧ splitNL "ab\n".toList = [['a', 'b'], []] ∧
    splitNL "a\r\n\nb".toList = [['a', '\r'], [], ['b']] := by decide +kernel
-- undecodable chunks yield `None`, never a panic
example : groupShares id "" "e" = .ok none ∧ groupShares id "AB==\n*" "e" = .ok none ∧
    groupShares id "AAAA" "" = .ok none := by decide +kernel
-- the (R) clause is sharp: under the identity permutation the epoch does not reach the key bytes and the
-- keys collide
example : deriveSkeKey id (List.replicate 32 1) (epochBytes "e") =
    deriveSkeKey id (List.replicate 32 1) (epochBytes "f") := by decide +kernel

end StarModel.Props.C17
