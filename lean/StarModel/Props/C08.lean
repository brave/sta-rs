/-
C08 — Wire encodings of shares and reports round-trip and reject malformed input.

`decode` functions of the model mirror the Rust control flow and slicing
(`star_sharks::Share::try_from`, `adss::Share::from_bytes`, `sta_rs::Message::from_bytes`,
`load_bytes`); the `layout` / `msgLayout` definitions are the independent declarative description
of the documented layout. The theorems say: decoders accept *exactly* the strings of that layout
(for all byte strings), decoding inverts encoding, and re-encoding an accepted string yields its
canonical form (partial trailing field element inside S dropped with the S length prefix adjusted,
bytes after the tag chunk dropped, nothing else changed).
-/
import StarModel.Lemmas.Wire

namespace StarModel.Props.C08

/-- canonical form of an encoded Shamir share: complete 24-byte elements only -/
def canonSharks (sb : Bytes) : Bytes := sb.take (24 * (sb.length / 24))

/-- a share value the encoder can represent: canonical field elements, sizes that fit `u32` -/
def AdssValid (v : Adss.Share) : Prop :=
  v.thr < 2 ^ 32 ∧ v.S.Valid ∧ 24 * (v.S.y.length + 1) < 2 ^ 32 ∧ v.C.length < 2 ^ 32 ∧
  v.D.length < 2 ^ 32 ∧ v.J.length = 64

def MsgValid (m : Star.Message) : Prop :=
  m.ciphertext.length < 2 ^ 32 ∧ AdssValid m.share ∧ m.share.toBytes.length < 2 ^ 32 ∧ m.tag.length < 2 ^ 32

/-- **Layout.** Encoders are literally the documented concatenations: 24-byte little-endian
elements; 4-byte LE threshold and length prefixes; 64-byte tag; ciphertext/share/tag chunks. -/
theorem C08_layout (s : Sharks.Share) (v : Adss.Share) (m : Star.Message) :
    Sharks.shareToBytes s = Bytes.ofNatLE 24 s.x ++ (s.y.map (Bytes.ofNatLE 24)).flatten ∧
    v.toBytes = Bytes.le32 v.thr ++ Adss.storeBytes (Sharks.shareToBytes v.S) ++ Adss.storeBytes v.C ++
      Adss.storeBytes v.D ++ v.J ∧
    m.toBytes = Adss.storeBytes m.ciphertext ++ Adss.storeBytes m.share.toBytes ++ Adss.storeBytes m.tag ∧
    (∀ x : Bytes, x.length < 2 ^ 32 → Adss.storeBytes x = Bytes.ofNatLE 4 x.length ++ x) := by
  refine ⟨?_, rfl, rfl, fun x hx => Adss.storeBytes_eq x hx⟩
  unfold Sharks.shareToBytes
  rw [Fp.toRepr_eq]
  congr 2

/-- **Round trip, Shamir share** -/
theorem C08_sharks_roundtrip (s : Sharks.Share) (h : s.Valid) :
    Sharks.shareFromBytes (Sharks.shareToBytes s) = some s := by
  simpa using Sharks.shareFromBytes_append s h [] (by simp)

/-- **Accept ⇔ well-formed, Shamir share**, for every byte string: accepted iff at least one
element is present and every complete 24-byte chunk is a canonical field element; the value
re-encodes to the canonical form of the input. -/
theorem C08_sharks_accept_iff (bs : Bytes) (s : Sharks.Share) :
    Sharks.shareFromBytes bs = some s ↔
      24 ≤ bs.length ∧ s.Valid ∧ Sharks.shareToBytes s = canonSharks bs := by
  unfold canonSharks
  refine ⟨?_, fun ⟨_, hv, he⟩ => ?_⟩
  · fun_cases Sharks.shareFromBytes bs <;> intro h <;> cases h
    rename_i hl x hx yb ys hys
    obtain ⟨hxlt, hxr⟩ := (Fp.fromRepr_iff _ _).mp hx
    obtain ⟨-, hylt, hyr⟩ := Sharks.decodeElems_some _ _ _ hys
    rw [show yb.length = bs.length - 24 from List.length_drop] at hyr
    have h24 : 24 ≤ bs.length := Nat.le_of_not_lt hl
    refine ⟨h24, ⟨hxlt, hylt⟩, ?_⟩
    rw [Sharks.shareToBytes, hxr, hyr, ← Nat.sub_add_cancel h24, Nat.add_div_right _ (by decide),
      Nat.add_sub_cancel, Nat.mul_succ, Nat.add_comm, List.take_add]
    rfl
  · -- `bs` is `shareToBytes s` plus a trailing partial element
    have := Sharks.shareFromBytes_append s hv (bs.drop (24 * (bs.length / 24)))
      (by rw [List.length_drop, ← Nat.mod_eq_sub_mul_div]; exact Nat.mod_lt _ (by decide))
    rwa [he, List.take_append_drop] at this

theorem adssValid_sizes (v : Adss.Share) (h : AdssValid v) :
    (Sharks.shareToBytes v.S).length < 2 ^ 32 := by
  rw [Sharks.shareToBytes_length]; exact h.2.2.1

/-- **Accept ⇔ well-formed, ADSS share**, for every byte string -/
theorem C08_adss_accept_iff (bs : Bytes) (v : Adss.Share) :
    Adss.Share.fromBytes bs = .ok v ↔
      ∃ sb, bs = Adss.layout v.thr sb v.C v.D v.J ∧ v.thr < 2 ^ 32 ∧ sb.length < 2 ^ 32 ∧
        v.C.length < 2 ^ 32 ∧ v.D.length < 2 ^ 32 ∧ v.J.length = 64 ∧
        Sharks.shareFromBytes sb = some v.S := by
  have hal : Params.accessStructureLength = 4 := rfl
  have hml : Params.macLength = 64 := rfl
  constructor
  · -- the decoder's only accepting path
    fun_cases Adss.Share.fromBytes bs <;> intro h <;> cases h
    rename_i h4 thr sl0 sb hsb sl1 c hc sl2 d hd sl3 hj S hS
    obtain ⟨l1, e1⟩ := Adss.loadBytes_ok_iff.mp hsb
    obtain ⟨l2, e2⟩ := Adss.loadBytes_ok_iff.mp hc
    obtain ⟨l3, e3⟩ := Adss.loadBytes_ok_iff.mp hd
    obtain ⟨lt, et⟩ := Bytes.le32_toNatLE_take4 bs (Nat.le_of_not_lt h4)
    refine ⟨sb, ?_, lt, l1, l2, l3, Decidable.not_not.mp hj, hS⟩
    simp only [Adss.layout, List.append_assoc]
    rw [e3, e2, e1, show Bytes.le32 thr = bs.take 4 from et]
    exact (List.take_append_drop 4 bs).symm
  · rintro ⟨sb, rfl, ht, hs, hc, hd, hj, hS⟩
    simp [Adss.Share.fromBytes, Adss.layout, hal, hml, List.take_left', List.drop_left', Bytes.toNatLE_le32 _ ht,
      Adss.loadBytes_chunk _ _ hs, Adss.loadBytes_chunk _ _ hc, Adss.loadBytes_chunk _ _ hd, Adss.drop_chunk, hj, hS]

/-- **Round trip, ADSS share** -/
theorem C08_adss_roundtrip (v : Adss.Share) (h : AdssValid v) :
    Adss.Share.fromBytes v.toBytes = .ok v := by
  obtain ⟨ht, hS, hs, hc, hd, hj⟩ := h
  rw [← Sharks.shareToBytes_length] at hs
  exact (C08_adss_accept_iff _ v).mpr
    ⟨_, Adss.toBytes_eq_layout v hs hc hd, ht, hs, hc, hd, hj, C08_sharks_roundtrip v.S hS⟩

/-- **Canonical re-encoding, ADSS share**: the re-encoding of an accepted string is the same
layout with the inner share canonicalised (and its length prefix adjusted) — nothing else changes;
and the decoded value is one the encoder can represent. -/
theorem C08_adss_reencode (bs : Bytes) (v : Adss.Share) (h : Adss.Share.fromBytes bs = .ok v) :
    AdssValid v ∧ ∃ sb, bs = Adss.layout v.thr sb v.C v.D v.J ∧
      v.toBytes = Adss.layout v.thr (canonSharks sb) v.C v.D v.J := by
  obtain ⟨sb, hbs, ht, hs, hc, hd, hj, hS⟩ := (C08_adss_accept_iff bs v).mp h
  obtain ⟨-, hval, henc⟩ := (C08_sharks_accept_iff sb v.S).mp hS
  have hsz : (Sharks.shareToBytes v.S).length < 2 ^ 32 := by
    rw [henc]; exact Nat.lt_of_le_of_lt (List.length_take_le' _ _) hs
  refine ⟨⟨ht, hval, Sharks.shareToBytes_length v.S ▸ hsz, hc, hd, hj⟩, sb, hbs, ?_⟩
  rw [Adss.toBytes_eq_layout v hsz hc hd, henc]

/-- **Accept ⇔ well-formed, report**, for every byte string -/
theorem C08_message_accept_iff (bs : Bytes) (m : Star.Message) :
    Star.Message.fromBytes bs = .ok m ↔
      ∃ sb rest, bs = Star.msgLayout m.ciphertext sb m.tag rest ∧ m.ciphertext.length < 2 ^ 32 ∧
        sb.length < 2 ^ 32 ∧ m.tag.length < 2 ^ 32 ∧ Adss.Share.fromBytes sb = .ok m.share := by
  constructor
  · fun_cases Star.Message.fromBytes bs <;> intro h <;> cases h
    rename_i cb hcb sl0 sb hsb sh hsh sl1 tag htag
    obtain ⟨l1, e1⟩ := Adss.loadBytes_ok_iff.mp hcb
    obtain ⟨l2, e2⟩ := Adss.loadBytes_ok_iff.mp hsb
    obtain ⟨l3, e3⟩ := Adss.loadBytes_ok_iff.mp htag
    refine ⟨sb, sl1.drop (4 + tag.length), ?_, l1, l2, l3, hsh⟩
    simp only [Star.msgLayout, List.append_assoc]
    rw [e3, e2, e1]
  · rintro ⟨sb, rest, rfl, hc, hs, ht, hsh⟩
    simp [Star.Message.fromBytes, Star.msgLayout, Adss.loadBytes_chunk _ _ hc, Adss.loadBytes_chunk _ _ hs,
      Adss.loadBytes_chunk _ _ ht, Adss.drop_chunk, hsh]

/-- **Round trip, report** -/
theorem C08_message_roundtrip (m : Star.Message) (h : MsgValid m) :
    Star.Message.fromBytes m.toBytes = .ok m := by
  obtain ⟨hc, hv, hs, ht⟩ := h
  exact (C08_message_accept_iff _ m).mpr
    ⟨_, _, Star.toBytes_eq_msgLayout m hc hs ht, hc, hs, ht, C08_adss_roundtrip m.share hv⟩

/-- **Canonical re-encoding, report**: trailing bytes after the tag chunk are dropped, the share
chunk is replaced by its canonical re-encoding (length prefix adjusted), nothing else changes. -/
theorem C08_message_reencode (bs : Bytes) (m : Star.Message) (h : Star.Message.fromBytes bs = .ok m) :
    ∃ sb rest, bs = Star.msgLayout m.ciphertext sb m.tag rest ∧
      Adss.Share.fromBytes sb = .ok m.share ∧
      m.toBytes = Star.msgLayout m.ciphertext m.share.toBytes m.tag [] ∧
      m.share.toBytes.length ≤ sb.length := by
  obtain ⟨sb, rest, hbs, hc, hs, ht, hsh⟩ := (C08_message_accept_iff bs m).mp h
  obtain ⟨hv, sb', hsb, henc⟩ := C08_adss_reencode sb m.share hsh
  have hle : m.share.toBytes.length ≤ sb.length := by
    rw [henc, hsb, Adss.layout, Adss.layout, canonSharks]
    simp only [List.length_append, Bytes.le32_length]
    -- the two sums differ in one summand
    exact Nat.add_le_add_left (Nat.add_le_add_right (Nat.add_le_add_left (List.length_take_le' _ _) _) _) _
  exact ⟨sb, rest, hbs, hsh, Star.toBytes_eq_msgLayout m hc (Nat.lt_of_le_of_lt hle hs) ht, hle⟩

-- non-vacuity: a concrete valid share round-trips; a concrete non-canonical string is re-encoded
example : AdssValid ⟨2, ⟨5, [7]⟩, [1, 2], [], List.replicate 64 0⟩ := by
  refine ⟨by decide, ⟨by decide +kernel, ?_⟩, by decide, by decide, by decide, by decide⟩
  intro y hy; simp at hy; subst hy; decide +kernel
example : Sharks.shareFromBytes (Bytes.ofNatLE 24 5 ++ Bytes.ofNatLE 24 7 ++ [9, 9]) = some ⟨5, [7]⟩ := by
  decide +kernel
example : Sharks.shareFromBytes (Bytes.ofNatLE 24 Fp.p) = none := by decide +kernel

end StarModel.Props.C08
