/-
C15 — The serialisation layer of `ppoprf` (bincode of `ServerPublicKey` and `ProofDLEQ` behind the
size guards of `load_from_bincode`, the base64 adapters, the `serde_json` text of `Point` and
`Evaluation`) round-trips, accepts exactly the well-formed encodings and never panics.

`StarModel.Codec` mirrors what bincode 1.3.3, serde's derived visitors, serde_json 1.0.151,
base64 0.22.1 and curve25519-dalek's serde impls do on these types (validated byte for byte by the
`codec` correspondence stream); the theorems below hold for ALL inputs of the model:

* base64: decoding inverts encoding and accepts only the canonical encoding;
* public key: every well-formed key (sorted distinct tags, 32-byte points, 0..256 tags) encodes to
  `40 + 33·n ≤ 8488 ≤ MAX_SERIALIZED_PK_SIZE` bytes and loads back to itself; longer inputs are
  refused with `TooBig`; loading is total (ok or err, never a panic) and an accepted input is
  `base ‖ u64 n ‖ n entries ‖ ignored tail` with the entries inserted one by one into a sorted map;
* proof: accepted iff exactly 64 bytes whose two halves are canonical scalars;
* JSON: the reader inverts the emitters for `Point` and for `Evaluation` (proof present / absent),
  and whatever text it accepts yields a 32-byte point and canonical scalars.
* key state (feature `key-sync`): the exported state imports back to itself (partial: bit vectors
  of at most 64 bits stored from bit 0, which is all the GGM code produces).
What the stream alone validates: that the emitters are `serde_json::to_string`, and the reader's
behaviour on non-canonical text (whitespace, field order, unknown / duplicate / missing fields,
array form, escapes, malformed numbers) — see `harness/src/s_codec.rs`.
-/
import StarModel.Lemmas.Json

namespace StarModel.Props.C15
open StarModel.Codec

/-! ### base64 (`BASE64_STANDARD`) -/

/-- **Round trip**, every byte string. -/
theorem C15_base64_roundtrip (bs : Bytes) : Base64.decodeChars (Base64.encodeChars bs) = some bs :=
  Base64.decodeChars_encodeChars bs

/-- **Accepted ⇔ canonical**: the only text that decodes to `bs` is `encode bs` (padding required,
no symbols outside the alphabet, no whitespace, zero trailing bits). -/
theorem C15_base64_accept_iff (cs : List Char) (bs : Bytes) :
    Base64.decodeChars cs = some bs ↔ cs = Base64.encodeChars bs :=
  Base64.decodeChars_eq_some_iff cs bs

/-- the `String`-level functions -/
theorem C15_base64_string_roundtrip (bs : Bytes) : Base64.decode (Base64.encode bs) = some bs :=
  Base64.decode_encode bs

/-! ### `ServerPublicKey` -/

/-- the values a `ServerPublicKey` can hold: a 32-byte base point and a `BTreeMap<u8, Point>`,
i.e. strictly increasing tags with 32-byte points -/
def PkWellFormed (pk : Ppoprf.PublicKey) : Prop :=
  pk.basePk.length = 32 ∧ StrictTags pk.mdPks ∧ ∀ e ∈ pk.mdPks, e.2.length = 32

/-- **Size bound**: a well-formed key has at most 256 tags and encodes to `40 + 33·n ≤ 8488`
bytes, below the limit of `load_from_bincode` (`Params.maxSerializedPkSize`, read from the
source). -/
theorem C15_pk_size_bound (pk : Ppoprf.PublicKey) (h : PkWellFormed pk) :
    pk.mdPks.length ≤ 256 ∧ pk.toBincode.length = 40 + 33 * pk.mdPks.length ∧
      pk.toBincode.length ≤ 8488 ∧ 8488 ≤ Params.maxSerializedPkSize := by
  obtain ⟨h1, h2, h3⟩ := h
  have hn := strictTags_length _ h2
  have hl : pk.toBincode.length = 40 + 33 * pk.mdPks.length := pkLayout_length _ _ h1 h3
  refine ⟨hn, hl, by omega, by decide⟩

/-- **Size guard**: anything longer than the limit is refused before decoding. -/
theorem C15_pk_size_guard (bs : Bytes) (h : bs.length > Params.maxSerializedPkSize) :
    pkFromBincode bs = .err "TooBig" := by
  unfold pkFromBincode; rw [if_pos h]

/-- **Accept ⇔ well-formed**, every byte string: within the size limit and of the shape
`base(32) ‖ u64 n ‖ n × (tag, point(32)) ‖ tail`; the value is the base point with the entries
inserted in sequence into a sorted map (later duplicates replace earlier ones). -/
theorem C15_pk_accept_iff (bs : Bytes) (v : Ppoprf.PublicKey) :
    pkFromBincode bs = .ok v ↔
      bs.length ≤ Params.maxSerializedPkSize ∧
      ∃ es tail, bs = pkLayout v.basePk es ++ tail ∧ v.basePk.length = 32 ∧
        (∀ e ∈ es, e.2.length = 32) ∧ v.mdPks = insertAll es := by
  rw [pkFromBincode_ok_iff, pkDecode_iff]
  refine and_congr_right fun hl => ⟨fun ⟨es, tail, h1, h2, h3, _, h5⟩ => ⟨es, tail, h1, h2, h3, h5⟩,
    fun ⟨es, tail, h1, h2, h3, h5⟩ => ⟨es, tail, h1, h2, h3, ?_, h5⟩⟩
  -- the count fits a `u64` because the input fits the size limit
  have hlen := congrArg List.length h1
  rw [List.length_append, pkLayout_length _ _ h2 h3] at hlen
  have : Params.maxSerializedPkSize = 16384 := rfl
  omega

/-- **Round trip**: every well-formed key, of any size 0..256, loads back to itself. -/
theorem C15_pk_roundtrip (pk : Ppoprf.PublicKey) (h : PkWellFormed pk) :
    pkFromBincode pk.toBincode = .ok pk := by
  obtain ⟨_, _, hle, hmax⟩ := C15_pk_size_bound pk h
  exact (C15_pk_accept_iff _ _).mpr ⟨by omega, pk.mdPks, [], (List.append_nil _).symm, h.1, h.2.2,
    (insertAll_sorted _ h.2.1).symm⟩

/-- **Totality and determinacy**: loading yields a value or an error, never a panic; an accepted
value is a well-formed key determined by the consumed prefix `base ‖ n ‖ entries` of the input
(the tail is ignored), and it re-encodes to exactly that prefix when the tags of the input were
strictly increasing (otherwise to the sorted, de-duplicated map). -/
theorem C15_pk_decode_total (bs : Bytes) :
    ((∃ v, pkFromBincode bs = .ok v) ∨ (∃ k, pkFromBincode bs = .err k)) ∧
    ∀ v, pkFromBincode bs = .ok v →
      PkWellFormed v ∧
      ∃ es tail, bs = pkLayout v.basePk es ++ tail ∧ v.mdPks = insertAll es ∧
        (StrictTags es → v.toBincode = pkLayout v.basePk es ∧
          v.toBincode = bs.take (40 + 33 * es.length)) := by
  constructor
  · fun_cases pkFromBincode bs with
    | case2 => exact Or.inl ⟨_, rfl⟩
    | _ => exact Or.inr ⟨_, rfl⟩
  · intro v h
    obtain ⟨_, es, tail, h1, h2, h3, h4⟩ := (C15_pk_accept_iff bs v).mp h
    refine ⟨⟨h2, h4 ▸ insertAll_strict es, h4 ▸ insertAll_mem es (·.length = 32) h3⟩, es, tail, h1, h4,
      ?_⟩
    intro hs
    have e1 : v.toBincode = pkLayout v.basePk es :=
      (congrArg (pkLayout v.basePk) (h4.trans (insertAll_sorted es hs)) :)
    refine ⟨e1, ?_⟩
    rw [e1, h1, ← pkLayout_length v.basePk es h2 h3, List.take_left' rfl]

/-! ### `ProofDLEQ` -/

/-- **Size guard**: anything longer than the limit is refused before decoding. -/
theorem C15_proof_size_guard (bs : Bytes) (h : bs.length > Params.maxSerializedProofSize) :
    proofFromBincodeFull bs = .err "TooBig" := by
  unfold proofFromBincodeFull; rw [if_pos h]

/-- **Accept ⇔ well-formed**, every byte string: exactly 64 bytes, the canonical encodings of two
scalars below `ℓ`. -/
theorem C15_proof_accept_iff (bs : Bytes) (c s : Nat) :
    proofFromBincodeFull bs = .ok (c, s) ↔
      bs.length = 64 ∧ c < Scalar25519.ell ∧ s < Scalar25519.ell ∧ bs = Ppoprf.proofToBincode c s := by
  have hmax : Params.maxSerializedProofSize = 64 := rfl
  rw [proofFromBincodeFull_ok_iff, proofDecode_iff, hmax]
  constructor
  · rintro ⟨hl, hc, hs, rest, rfl⟩
    rw [List.length_append, proofToBincode_length] at hl
    have : rest = [] := List.eq_nil_of_length_eq_zero (by omega)
    subst this
    simp [hc, hs, proofToBincode_length]
  · rintro ⟨hl, hc, hs, rfl⟩
    exact ⟨by omega, hc, hs, [], by simp⟩

/-- **Round trip**: canonical scalars. -/
theorem C15_proof_roundtrip (c s : Nat) (hc : c < Scalar25519.ell) (hs : s < Scalar25519.ell) :
    proofFromBincodeFull (Ppoprf.proofToBincode c s) = .ok (c, s) :=
  (C15_proof_accept_iff _ c s).mpr ⟨proofToBincode_length c s, hc, hs, rfl⟩

/-- acceptance in terms of the input alone: accepted iff 64 bytes whose halves are below `ℓ`;
shorter inputs and non-canonical scalars are `Bincode` errors, longer ones `TooBig`; never a
panic -/
theorem C15_proof_accept_iff_bytes (bs : Bytes) :
    (∃ p, proofFromBincodeFull bs = .ok p) ↔
      bs.length = 64 ∧ Bytes.toNatLE (bs.take 32) < Scalar25519.ell ∧
        Bytes.toNatLE (bs.drop 32) < Scalar25519.ell := by
  constructor
  · rintro ⟨⟨c, s⟩, h⟩
    obtain ⟨hl, hc, hs, rfl⟩ := (C15_proof_accept_iff _ c s).mp h
    rw [Ppoprf.proofToBincode, List.take_left' (toBytes_length c), List.drop_left' (toBytes_length c),
      toNatLE_toBytes hc, toNatLE_toBytes hs]
    exact ⟨hl, hc, hs⟩
  · rintro ⟨hl, hc, hs⟩
    refine ⟨(Bytes.toNatLE (bs.take 32), Bytes.toNatLE (bs.drop 32)), (C15_proof_accept_iff _ _ _).mpr ⟨hl, hc, hs, ?_⟩⟩
    rw [Ppoprf.proofToBincode, Scalar25519.toBytes, Scalar25519.toBytes,
      (Bytes.ofNatLE_eq_iff (Nat.lt_trans hc ell_lt) _).mpr ⟨by simp; omega, rfl⟩,
      (Bytes.ofNatLE_eq_iff (Nat.lt_trans hs ell_lt) _).mpr ⟨by simp; omega, rfl⟩, List.take_append_drop]

theorem C15_proof_total (bs : Bytes) :
    (∃ p, proofFromBincodeFull bs = .ok p) ∨ proofFromBincodeFull bs = .err "TooBig" ∨
      proofFromBincodeFull bs = .err "Bincode" := by
  fun_cases proofFromBincodeFull bs with
  | case1 => exact Or.inr (Or.inl rfl)
  | case2 => exact Or.inl ⟨_, rfl⟩
  | case3 => exact Or.inr (Or.inr rfl)

/-- the guarded loader agrees with `Ppoprf.proofFromBincode`, the decoder of exactly
`MAX_SERIALIZED_PROOF_SIZE` bytes that the driver runs for `pp.proofload` -/
theorem C15_proof_agrees (bs : Bytes) (p : Nat × Nat) :
    proofFromBincodeFull bs = .ok p ↔ Ppoprf.proofFromBincode bs = some p := by
  obtain ⟨c, s⟩ := p
  rw [C15_proof_accept_iff]
  constructor
  · rintro ⟨hl, hc, hs, rfl⟩
    rw [Ppoprf.proofFromBincode,
      if_neg (Decidable.not_not.mpr (show _ = Params.maxSerializedProofSize from hl)),
      Ppoprf.proofToBincode, List.take_left' (toBytes_length c), List.drop_left' (toBytes_length c),
      fromCanonicalBytes_toBytes c hc, fromCanonicalBytes_toBytes s hs]
  · fun_cases Ppoprf.proofFromBincode bs with
    | case2 =>
      next hl _ _ h2 h1 =>
      obtain ⟨hc, ec⟩ := (fromCanonicalBytes_iff _ _).mp h1
      obtain ⟨hs, es⟩ := (fromCanonicalBytes_iff _ _).mp h2
      intro h; cases h
      exact ⟨Decidable.not_not.mp hl, hc, hs,
        by rw [Ppoprf.proofToBincode, ec, es, List.take_append_drop]⟩
    | _ => nofun

/-! ### JSON (`serde_json`) -/

/-- **Round trip, `Point`**: `from_str(to_string(p)) = p` for every 32-byte value. -/
theorem C15_point_json_roundtrip (pt : Bytes) (h : pt.length = 32) :
    pointFromJsonChars (pointToJsonChars pt) = some pt :=
  pointFromJson_emit pt h

/-- **Round trip, `Evaluation`**, proof absent or present (canonical scalars). -/
theorem C15_evaluation_json_roundtrip (out : Bytes) (proof : Option (Nat × Nat)) (ho : out.length = 32)
    (hp : ProofValid proof) :
    evaluationFromJsonChars (evaluationToJsonChars out proof) = some (out, proof) :=
  evaluationFromJson_emit out proof ho hp

/-- `C15_evaluation_json_roundtrip` at `proof = none` and at `proof = some (c, s)` -/
theorem C15_evaluation_json_roundtrip_cases (out : Bytes) (ho : out.length = 32) :
    evaluationFromJsonChars (evaluationToJsonChars out none) = some (out, none) ∧
    ∀ c s, c < Scalar25519.ell → s < Scalar25519.ell →
      evaluationFromJsonChars (evaluationToJsonChars out (some (c, s))) = some (out, some (c, s)) :=
  ⟨C15_evaluation_json_roundtrip out none ho trivial,
   fun c s hc hs => C15_evaluation_json_roundtrip out (some (c, s)) ho ⟨hc, hs⟩⟩

/-- the `String`-level functions the driver answers with -/
theorem C15_json_string_roundtrip (out : Bytes) (proof : Option (Nat × Nat)) (ho : out.length = 32)
    (hp : ProofValid proof) :
    pointFromJson (pointToJson out) = some out ∧
    evaluationFromJson (evaluationToJson out proof) = some (out, proof) := by
  simp [pointFromJson, pointToJson, evaluationFromJson, evaluationToJson,
    C15_point_json_roundtrip out ho, C15_evaluation_json_roundtrip out proof ho hp]

/-- **Accepted ⇒ well-formed**, every text: whatever `from_str` accepts is a 32-byte point,
resp. a 32-byte output with canonical proof scalars, so re-serialising it and reading it again
gives the same value (the canonical form the stream compares). -/
theorem C15_json_accept_wellformed (cs : List Char) :
    (∀ pt, pointFromJsonChars cs = some pt →
      pt.length = 32 ∧ pointFromJsonChars (pointToJsonChars pt) = some pt) ∧
    (∀ out proof, evaluationFromJsonChars cs = some (out, proof) →
      out.length = 32 ∧ ProofValid proof ∧
      evaluationFromJsonChars (evaluationToJsonChars out proof) = some (out, proof)) := by
  constructor
  · intro pt h
    obtain ⟨r, hr⟩ := atEnd_some _ _ h
    have hl := parseByteArray_length 32 (by decide) _ _ _ hr
    exact ⟨hl, C15_point_json_roundtrip pt hl⟩
  · intro out proof h
    obtain ⟨r, hr⟩ := atEnd_some _ _ h
    obtain ⟨h1, h2⟩ := parseEvaluation_valid _ _ _ _ hr
    exact ⟨h1, h2, C15_evaluation_json_roundtrip out proof h1 h2⟩

/-! ### key state (`ServerKeyStateRef` / `ServerKeyState`, feature `key-sync`) -/

/-- **Round trip of the exported key state** (partial: bit strings of at most 64 bits stored from
bit 0 of their buffer, which is all `ggm.rs` produces — its tree has depth 8; what the importer
does with other head indices, spare elements and dead bits is validated by the stream only):
`bincode::deserialize::<ServerKeyState>(bincode::serialize(&server.get_private_key()))` restores
the OPRF key, the public key, the PRG keys, every retained node and the punctured list; trailing
bytes are ignored. -/
theorem C15_keystate_roundtrip_partial (ks : KeyState) (h : KeyStateValid ks) (tail : Bytes) :
    keyStateFromBincode (keyStateToBincode ks ++ tail) = some ks :=
  keyStateFromBincode_emit ks h tail

/-- the transport format of one `BitVec<usize, Lsb0>` of at most 64 bits -/
theorem C15_bitvec_roundtrip_partial (bits : Ggm.Bits) (h : bits.length ≤ 64) (tail : Bytes) :
    rdBitVec (bitvecToBincode bits ++ tail) = some (bits, tail) :=
  rdBitVec_emit bits h tail

/-! ### non-vacuity -/

def exPk : Ppoprf.PublicKey :=
  ⟨List.replicate 32 7, [(3, List.replicate 32 1), (200, List.replicate 32 2)]⟩

example : PkWellFormed exPk := by
  refine ⟨by decide, ?_, by decide⟩
  show List.Pairwise _ _
  decide
example : exPk.toBincode.length = 106 := by decide +kernel
example : pkFromBincode exPk.toBincode = .ok exPk := by decide +kernel
-- trailing bytes are ignored, truncations are refused
example : pkFromBincode (exPk.toBincode ++ [9, 9, 9]) = .ok exPk := by decide +kernel
example : pkFromBincode (exPk.toBincode.take 105) = .err "Bincode" := by decide +kernel
example : pkFromBincode [] = .err "Bincode" := by decide +kernel
-- unsorted input with a duplicate tag: the later entry wins and the map is sorted
-- (the raised depth is what plain `decide` needs here; `decide +kernel` does without)
set_option maxRecDepth 4096 in
example : pkFromBincode (pkLayout (List.replicate 32 7)
    [(200, List.replicate 32 5), (3, List.replicate 32 1), (200, List.replicate 32 2)]) = .ok exPk := by decide +kernel
-- a length prefix of 2^64 - 1 with no entries
example : pkFromBincode (List.replicate 32 0 ++ List.replicate 8 255) = .err "Bincode" := by rfl
-- the empty key
example : pkFromBincode (List.replicate 40 0) = .ok ⟨List.replicate 32 0, []⟩ := by decide +kernel
example : proofFromBincodeFull (Ppoprf.proofToBincode 5 7) = .ok (5, 7) := by decide +kernel
example : proofFromBincodeFull (List.replicate 64 255) = .err "Bincode" := by decide +kernel
example : proofFromBincodeFull (List.replicate 63 0) = .err "Bincode" := by decide +kernel
example : proofFromBincodeFull (List.replicate 65 0) = .err "TooBig" := by decide +kernel
-- `String.toList_ofList`: `"…".toList` costs the kernel quadratic time, the list of the characters linear
-- time
example : Base64.encodeChars [0, 255, 16] = "AP8Q".toList := by rw [String.toList_ofList]; decide +kernel
example : Base64.decodeChars "AP8=".toList = some [0, 255] := by rw [String.toList_ofList]; decide +kernel
example : Base64.decodeChars "AP9=".toList = none := by rw [String.toList_ofList]; decide +kernel
example : Base64.decodeChars "AP8".toList = none := by rw [String.toList_ofList]; decide +kernel
example : pointFromJsonChars (pointToJsonChars (List.replicate 32 200)) = some (List.replicate 32 200) := by
  decide +kernel
example : evaluationToJsonChars (List.replicate 32 0) none =
    "{\"output\":\"AAAAAAAAAAAAAAAAAAAAAAAAAAAAAAAAAAAAAAAAAAA=\",\"proof\":null}".toList := by
  rw [String.toList_ofList]; decide +kernel
-- field order, whitespace, an unknown field and a missing `proof` are accepted
example : evaluationFromJsonChars
    " { \"x\" : [1, {\"y\":\"\\n\"}] ,\"output\":\"AAAAAAAAAAAAAAAAAAAAAAAAAAAAAAAAAAAAAAAAAAA=\"}\n".toList =
    some (List.replicate 32 0, none) := by rw [String.toList_ofList]; decide +kernel
-- duplicate field, trailing characters, escaped value
example : evaluationFromJsonChars
    "{\"proof\":null,\"proof\":null,\"output\":\"AAAAAAAAAAAAAAAAAAAAAAAAAAAAAAAAAAAAAAAAAAA=\"}".toList =
    none := by
  rw [String.toList_ofList]; decide +kernel
example : evaluationFromJsonChars
    "{\"output\":\"AAAAAAAAAAAAAAAAAAAAAAAAAAAAAAAAAAAAAAAAAAA=\"}x".toList = none := by
  rw [String.toList_ofList]; decide +kernel
example : evaluationFromJsonChars
    "{\"output\":\"\\u0041AAAAAAAAAAAAAAAAAAAAAAAAAAAAAAAAAAAAAAAAAA=\"}".toList = none := by
  rw [String.toList_ofList]; decide +kernel

-- a bit vector `101` stored from bit 0: 19-byte name, width 64, head 0, 3 bits, one element 5
example : bitvecToBincode [true, false, true] =
    Bytes.le64 19 ++ orderName ++ [64, 0] ++ Bytes.le64 3 ++ Bytes.le64 1 ++ Bytes.le64 5 := by decide +kernel
-- the same bits transported with head index 2 inside a 2-element buffer with dead bits set
example : rdBitVec (Bytes.le64 19 ++ orderName ++ [64, 2] ++ Bytes.le64 3 ++ Bytes.le64 2
    ++ Bytes.le64 (5 * 4 + 3 + 32) ++ Bytes.le64 77) = some ([true, false, true], []) := by decide +kernel
example : rdBitVec (Bytes.le64 19 ++ orderName ++ [32, 0] ++ Bytes.le64 0 ++ Bytes.le64 0) = none := by decide +kernel

end StarModel.Props.C15
