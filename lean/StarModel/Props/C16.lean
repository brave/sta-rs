/-
C16 — ADSS sharing is deterministic up to the share point; recovery rebuilds it.
For every STROBE permutation `F`, every threshold, message and coin strings of any length.
"Sampling returned some" (`share … = some _`) is the only hypothesis: the rejection sampling of
`Fp::random` is unbounded in Rust and fuel-bounded in the model.
-/
import StarModel.Lemmas.Skeleton
import StarModel.Props.C05

namespace StarModel.Props.C16
open StarModel.Adss

/-- **Deterministic up to the share point.** If any invocation of `share` succeeds there is one
dealing `d`, a function of `(T, threshold, M, R)` only, such that EVERY invocation at point `x`
returns `(threshold, d.poly(x), d.C, d.D, d.J)`; `J`, `C`, `D` are the transcript MAC and the
encryptions under the transcript key. Sharing never fails with an error or a panic. -/
theorem C16_deterministic (F : Perm) (fuel : Nat) (T : Option Strobe) (thr : Nat) (M R : Bytes) :
    (∀ x sh, share F fuel T thr M R x = some (.ok sh) →
      ∃ d, deal F fuel T thr M R = some (.ok d) ∧
        (∀ x', share F fuel T thr M R x' = some (.ok ⟨thr, Sharks.evaluate d.polys x', d.C, d.D, d.J⟩)) ∧
        d.J = macOf F T thr M R ∧ d.K = keyOf F T thr M R ∧
        d.C = (Strobe.sendEnc F (encKey F d.K) M).2 ∧
        d.D = (Strobe.sendEnc F (Strobe.sendEnc F (encKey F d.K) M).1 R).2 ∧
        d.C.length = M.length ∧ d.D.length = R.length) ∧
    (∀ x k, share F fuel T thr M R x ≠ some (.err k)) ∧
    (∀ x w, share F fuel T thr M R x ≠ some (.panic w)) := by
  simp only [share_eq, deal_eq]
  -- `fun _ _ => nofun`: a bare `nofun` also matches on the two arguments in front of the equation, which is
  -- slow to check
  cases coeffs F fuel T thr M R with
  | none => exact ⟨fun _ _ => nofun, fun _ _ => nofun, fun _ _ => nofun⟩
  | some cs =>
    exact ⟨fun x sh _ => ⟨_, rfl, fun _ => rfl, rfl, rfl, rfl, rfl, Strobe.sendEnc_length F _ M,
      Strobe.sendEnc_length F _ R⟩, fun _ _ => nofun, fun _ _ => nofun⟩

/-- **Recovery.** For every threshold `t ≥ 1`, message and coins of any length (including empty):
any collection of shares produced by independent invocations of one sharing (default transcript)
that holds `t` distinct points — any order, duplicates, surplus — recovers exactly `(t, M, R)`. -/
theorem C16_recover (F : Perm) (fuel : Nat) (thr : Nat) (ht : 1 ≤ thr) (M R : Bytes)
    (xs : List Nat) (hx : ∀ x ∈ xs, x < Fp.p) (hc : thr ≤ xs.toFinset.card)
    (shares : List Adss.Share) (hlen : shares.length = xs.length)
    (hsh : ∀ i (h1 : i < xs.length) (h2 : i < shares.length),
      share F fuel none thr M R xs[i] = some (.ok shares[i])) :
    recover F shares = .ok ⟨thr, M, R⟩ := by
  have h0 : 0 < xs.length :=
    List.length_pos_iff.mpr (by rintro rfl; exact absurd (ht.trans hc) (by decide))
  -- the first share fixes the coefficients; every share is then the dealing's point at its `x`
  obtain ⟨cs, hcs, -⟩ := share_ok_iff.mp (hsh 0 h0 (hlen ▸ h0))
  obtain rfl : shares = xs.map ((dealtOf F none thr M R cs).shareAt thr) :=
    List.ext_getElem (by rw [hlen, List.length_map]) fun i h1 _ => by
      obtain ⟨cs', hcs', e⟩ := share_ok_iff.mp (hsh i (hlen ▸ h1) h1)
      cases hcs.symm.trans hcs'
      rw [e, List.getElem_map]
  exact recover_honest F ht M R (coeffs_spec hcs).1 xs hx hc

/-- **The recovered sharing is the original one**: the recovered commune deals exactly the original
dealing, so shares produced from it lie on the same polynomial and combine with the originals. -/
theorem C16_reshare (F : Perm) (fuel : Nat) (thr : Nat) (M R : Bytes) (shares : List Adss.Share) (c : Commune)
    (h : recover F shares = .ok c) (horig : c = ⟨thr, M, R⟩) :
    deal F fuel none c.thr c.M c.R = deal F fuel none thr M R ∧
    ∀ x, share F fuel none c.thr c.M c.R x = share F fuel none thr M R x := by
  subst horig; exact ⟨rfl, fun _ => rfl⟩

/-- **Shares of the recovered sharing combine with the originals** (`C16_reshare` without its
`horig` hypothesis, for actual share collections). Recover `c` from any qualifying collection
`shares0` of honest shares of `(thr, M, R)`. Then EVERY collection in which each share is produced
either by the original sharing or by a new sharing of the RECOVERED commune `c` (chosen per share
by `fromRecovered`), at points holding `thr` distinct values — for example `thr - 1` originals and
one new share — recovers `c` again. -/
theorem C16_reshare_combines (F : Perm) (fuel : Nat) (thr : Nat) (ht : 1 ≤ thr) (M R : Bytes)
    (xs0 : List Nat) (hx0 : ∀ x ∈ xs0, x < Fp.p) (hc0 : thr ≤ xs0.toFinset.card)
    (shares0 : List Adss.Share) (hlen0 : shares0.length = xs0.length)
    (hsh0 : ∀ i (h1 : i < xs0.length) (h2 : i < shares0.length),
      share F fuel none thr M R xs0[i] = some (.ok shares0[i]))
    (c : Commune) (hrec : recover F shares0 = .ok c)
    (xs : List Nat) (hx : ∀ x ∈ xs, x < Fp.p) (hc : thr ≤ xs.toFinset.card)
    (fromRecovered : Nat → Bool)
    (shares : List Adss.Share) (hlen : shares.length = xs.length)
    (hsh : ∀ i (h1 : i < xs.length) (h2 : i < shares.length),
      (if fromRecovered i then share F fuel none c.thr c.M c.R xs[i]
       else share F fuel none thr M R xs[i]) = some (.ok shares[i])) :
    c = ⟨thr, M, R⟩ ∧ recover F shares = .ok c := by
  have h0 := C16_recover F fuel thr ht M R xs0 hx0 hc0 shares0 hlen0 hsh0
  cases hrec.symm.trans h0
  exact ⟨rfl, C16_recover F fuel thr ht M R xs hx hc shares hlen fun i h1 h2 => by simpa using hsh i h1 h2⟩

/-- **Threshold 0 never recovers**, whatever the shares are. -/
theorem C16_threshold_zero (F : Perm) (s0 : Adss.Share) (rest : List Adss.Share) (h0 : s0.thr = 0) :
    ∃ k, recover F (s0 :: rest) = .err k := by
  obtain ⟨k, hk⟩ := Sharks.recover_threshold_zero ((s0 :: rest).map (·.S))
  rw [recover_cons, h0, hk]; exact ⟨k, rfl⟩

/-- **Transcript separation (reduction).** `recover` re-verifies under the default transcript.
If a collection whose first share was created under a custom transcript `T` is accepted, then the
MAC of `(thr, M, R)` under `T` equals the MAC of the recovered `(c.thr, c.M, c.R)` under the default
transcript — an explicit collision between two different STROBE transcripts. -/
theorem C16_transcript_separation (F : Perm) (fuel : Nat) (T : Strobe) (thr : Nat) (M R : Bytes) (x : Nat)
    (s0 : Adss.Share) (rest : List Adss.Share) (c : Commune)
    (hs0 : share F fuel (some T) thr M R x = some (.ok s0))
    (h : recover F (s0 :: rest) = .ok c) :
    macOf F (some T) thr M R = macOf F none c.thr c.M c.R := by
  obtain ⟨cs, -, rfl⟩ := share_ok_iff.mp hs0
  exact (C05.C05_altered_tag_is_forgery F _ rest c (macOf_length F _ thr M R) h).symm

-- non-vacuity (identity permutation): a threshold-2 sharing of the empty message recovers from the points 3,
-- 1, 3
example : (match share id 8 none 2 [] [1] 3, share id 8 none 2 [] [1] 1 with
    | some (.ok a), some (.ok b) => some (recover id [a, b, a])
    | _, _ => none) = some (.ok ⟨2, [], [1]⟩) := by
  -- an instance of `recover_honest` (what `C16_recover` rests on): only "the sampling succeeds" is evaluated
  obtain ⟨cs, hcs⟩ := Option.isSome_iff_exists.mp (by decide +kernel : (coeffs id 8 none 2 [] [1]).isSome)
  rw [share_eq, share_eq, hcs]
  exact congrArg some (recover_honest id (by decide) [] [1] (coeffs_spec hcs).1 [3, 1, 3]
    (by decide +kernel) (by decide))

end StarModel.Props.C16
