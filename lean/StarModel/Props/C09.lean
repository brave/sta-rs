/-
C09 — Data from other parties never crashes the receiver.

Every modelled entry point returns `Outcome α = ok | err | panic`, where `panic` is reached
exactly where the Rust code would panic (slice index, `unwrap`/`expect`, `panic!`, checked
arithmetic). The theorems say the `panic` constructor is unreachable for ALL inputs. The model
follows the tree that contains the five C09 `fix:` commits of known_findings.json (to `load_bytes`,
`Share::from_bytes`, `recover`, `Client::verify` and `group_shares`); the malformed correspondence
streams run the real functions under `catch_unwind`, so a regression shows up as `panic`
(implementation) vs `err` (model).
-/
import StarModel.Props.C08
import StarModel.Lemmas.Ppoprf
import StarModel.Props.C15
import StarModel.Props.C17

namespace StarModel.Props.C09
open StarModel.Ppoprf

/-- (U) the decoders of shares and reports and the chunk helper, for every byte string -/
theorem C09_decoders (bs : Bytes) :
    (∀ w, Adss.loadBytes bs ≠ .panic w) ∧ (∀ w, Adss.Share.fromBytes bs ≠ .panic w) ∧
    (∀ w, Star.Message.fromBytes bs ≠ .panic w) ∧
    (Sharks.shareFromBytes bs = none ∨ ∃ s, Sharks.shareFromBytes bs = some s) :=
  ⟨Adss.loadBytes_not_panic bs, Adss.fromBytes_not_panic bs, Star.fromBytes_not_panic bs,
    by cases h : Sharks.shareFromBytes bs with
       | none => exact Or.inl rfl
       | some s => exact Or.inr ⟨s, rfl⟩⟩

/-- (U) share recovery on ARBITRARY shares — any thresholds (0, 2³²−1), shares without
y-coordinates, ragged, duplicated, empty collections — for every permutation `F` -/
theorem C09_recovery (F : Perm) (t : Nat) (sh : List Sharks.Share) (shares : List Adss.Share)
    (w : String) :
    Sharks.recover t sh ≠ .panic w ∧ Adss.recover F shares ≠ .panic w ∧
    Star.shareRecover F shares ≠ .panic w :=
  ⟨Sharks.recover_not_panic t sh w, Adss.recover_not_panic F shares w, Adss.recover_not_panic F shares w⟩

/-- (U) the loaders of public keys and proofs (size guard, then bincode) and the WASM grouping call
(newline-separated base64 shares + epoch): for every byte string / every pair of strings the
outcome is a value or the function's own failure, never a panic -/
theorem C09_loaders_and_wasm (F : Perm) (bs : Bytes) (serializedShares epoch : String) :
    (∀ w, Codec.pkFromBincode bs ≠ .panic w) ∧ (∀ w, Codec.proofFromBincodeFull bs ≠ .panic w) ∧
    (∀ w, Wasm.groupShares F serializedShares epoch ≠ .panic w) := by
  refine ⟨?_, ?_, fun w => C17.C17_group_never_panics F serializedShares epoch w⟩
  · intro w h
    rcases (C15.C15_pk_decode_total bs).1 with ⟨v, hv⟩ | ⟨k, hk⟩
    · rw [hv] at h; cases h
    · rw [hk] at h; cases h
  · intro w h
    rcases C15.C15_proof_total bs with ⟨p, hp⟩ | hp | hp
    · rw [hp] at h; cases h
    · rw [hp] at h; cases h
    · rw [hp] at h; cases h

variable {G : Type} {ops : GroupOps G}

/-- (U) **evaluation of a blinded point** (any bytes as the point, any tag, both modes): never a
panic. The only property of the group used: a compressed point decompresses. -/
theorem C09_server_eval (hdc : ∀ P, ops.decompress (ops.compress P) = some P) (F : Perm) (srv : Server)
    (pb : Bytes) (md : UInt8) (v : Bool) (n : Nat) (w : String) :
    Server.eval ops F srv pb md v n ≠ .panic w := by
  unfold Server.eval
  split
  · simp
  rename_i pt _
  split
  · simp
  -- `?` on the GGM result maps errors to `err`
  have hts : tagScalar F srv.prgKey0 srv.prgKey1 srv.ggm md ≠ .panic w := by
    unfold tagScalar ofGgm
    cases Ggm.eval (Ggm.strobeG F srv.prgKey0 srv.prgKey1) Params.ggmInpLen srv.ggm [md] <;> simp
  refine Outcome.bind_ne_panic hts fun ts _ => ?_
  cases v with
  | false => simp
  | true =>
    -- the combined public key value is a compressed point, so `into()` does not panic
    rcases getCombinedPkValue_cases (ops := ops) srv.publicKey md with ⟨k, hk⟩ | ⟨P, hP⟩
    · rw [hk]; nofun
    · obtain ⟨p, hp⟩ := newBatch_single (ops := ops) F (Scalar25519.add srv.oprfKey ts) P
        (ops.smul (Scalar25519.invert (Scalar25519.add srv.oprfKey ts)) pt) pt n
      rw [hP]
      simp only [bind_ok, pointInto, hdc, hp]
      nofun

/-- (U) **verification of an evaluation proof**: any public key bytes (points undecodable in any
position), any input/output point bytes, proof present or missing, any tag — the result is
`true` or `false`, never a panic. -/
theorem C09_client_verify (hdc : ∀ P, ops.decompress (ops.compress P) = some P) (F : Perm) (pk : PublicKey)
    (inp : Bytes) (ev : Bytes × Option (Nat × Nat)) (md : UInt8) :
    ∃ b, Client.verify ops F pk inp ev md = .ok b := by
  unfold Client.verify
  rcases getCombinedPkValue_cases (ops := ops) pk md with ⟨k, hk⟩ | ⟨P, hP⟩
  · rw [hk]; exact ⟨false, rfl⟩
  · rw [hP]
    simp only [pointInto, hdc]
    split
    · exact verifyBatch_single F _ _ P _ _
    · exact ⟨false, rfl⟩

end StarModel.Props.C09
