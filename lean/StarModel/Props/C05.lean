/-
C05 — Authenticated recovery: the result is the shared message or an error, never else.
For every STROBE permutation `F` and ARBITRARY collections of shares.
Clause kinds: (U) unconditional; (R) reduction to an explicit MAC collision of the default-transcript
MAC `macOf F none (t, M, R)` on two distinct triples.
-/
import StarModel.Lemmas.Skeleton
import StarModel.Lemmas.Adss

namespace StarModel.Props.C05
open StarModel.Adss

/-- an explicit collision of the ADSS MAC on two different `(threshold, message, coins)` triples -/
def MacCollision (F : Perm) (a b : Nat × Bytes × Bytes) : Prop :=
  a ≠ b ∧ macOf F none a.1 a.2.1 a.2.2 = macOf F none b.1 b.2.1 b.2.2

/-- (U) **Acceptance implies the MAC relation.** For any collection whatsoever: if `recover`
returns a commune `c`, then `c` carries the FIRST share's threshold, its message and coins are the
decryptions of the FIRST share's `C`, `D` under the key interpolated from the collection, and the
first share's tag IS the MAC of `(c.thr, c.M, c.R)`. -/
theorem C05_accept_implies_mac (F : Perm) (s0 : Adss.Share) (rest : List Adss.Share) (c : Commune)
    (h : Adss.recover F (s0 :: rest) = .ok c) :
    c.thr = s0.thr ∧ s0.J = (Strobe.sendMac F (macTranscript F none c.thr c.M c.R) s0.J.length).2 ∧
    ∃ key, Sharks.recover s0.thr ((s0 :: rest).map (·.S)) = .ok key ∧ Params.adssKeyLen ≤ key.length ∧
      c.M = (Strobe.recvEnc F (encKey F (key.take Params.adssKeyLen)) s0.C).2 ∧
      c.R = (Strobe.recvEnc F (Strobe.recvEnc F (encKey F (key.take Params.adssKeyLen)) s0.C).1 s0.D).2 ∧
      key.take Params.adssKeyLen = keyAfterMac F c.thr c.M c.R s0.J.length := by
  rw [recover_cons, Outcome.bind_eq_ok] at h
  obtain ⟨key, hk, h⟩ := h
  split at h
  · cases h
  · split at h
    · rename_i hl hv
      cases h
      obtain ⟨v1, v2⟩ := (verify_iff F _ _ _).mp hv
      exact ⟨rfl, v1, key, hk, by omega, rfl, rfl, v2⟩
    · cases h

theorem C05_never_panics (F : Perm) (shares : List Adss.Share) (w : String) :
    Adss.recover F shares ≠ .panic w := recover_not_panic F shares w

/-- (R) acceptance means the MAC of the recovered triple equals the first share's tag `s0.J`, whatever
64-byte string that is: a forgery when the tag is attacker-chosen -/
theorem C05_altered_tag_is_forgery (F : Perm) (s0 : Adss.Share) (rest : List Adss.Share) (c : Commune)
    (hl : s0.J.length = 64) (h : Adss.recover F (s0 :: rest) = .ok c) :
    macOf F none c.thr c.M c.R = s0.J := by
  obtain ⟨_, hmac, _⟩ := C05_accept_implies_mac F s0 rest c h
  rw [hl] at hmac
  exact hmac.symm

/-- (R) **The shared message or a collision.** If the first share of the collection carries the
honest tag and threshold of the sharing `(t, M, R)` — whatever else was altered in it or in any
other share, whatever foreign shares are mixed in, in whatever order — then the outcome is an
error, or exactly `(t, M, R)`, or it exhibits a MAC collision. -/
theorem C05_message_or_collision (F : Perm) (t : Nat) (M R : Bytes) (s0 : Adss.Share) (rest : List Adss.Share)
    (hthr : s0.thr = t) (hJ : s0.J = macOf F none t M R) (c : Commune)
    (h : Adss.recover F (s0 :: rest) = .ok c) :
    c = ⟨t, M, R⟩ ∨ MacCollision F (c.thr, c.M, c.R) (t, M, R) := by
  have hmac := C05_altered_tag_is_forgery F s0 rest c (by rw [hJ, macOf_length]) h
  by_cases heq : (c.thr, c.M, c.R) = (t, M, R)
  · exact .inl (by cases c; cases heq; rfl)
  · exact .inr ⟨heq, hmac.trans hJ⟩

/-- (U) **An altered tag on the share that supplies the ciphertext is always rejected**: the honest
collection of one sharing with only the first share's tag replaced by any other string. -/
theorem C05_tag_tamper_rejected (F : Perm) (fuel : Nat) (t : Nat) (ht : 1 ≤ t) (M R : Bytes) (d : Dealt)
    (hd : deal F fuel none t M R = some (.ok d))
    (x0 : Nat) (xr : List Nat) (hx : ∀ x ∈ x0 :: xr, x < Fp.p) (hc : t ≤ (x0 :: xr).toFinset.card)
    (J' : Bytes) (hJ' : J' ≠ d.J) (hl : J'.length = 64) :
    Adss.recover F ((⟨t, Sharks.evaluate d.polys x0, d.C, d.D, J'⟩ : Adss.Share) ::
      xr.map fun x => (⟨t, Sharks.evaluate d.polys x, d.C, d.D, d.J⟩ : Adss.Share)) = .err "mac" := by
  obtain ⟨cs, hcs, rfl⟩ := deal_ok_iff.mp hd
  rw [recover_dealt F ht M R (coeffs_spec hcs).1 _ _ (x0 :: xr) hx hc (by simp [List.map_map, Function.comp_def])
    rfl rfl rfl hl]
  exact if_neg hJ'

/-- (U) **The interpolated key is bound too.** Whatever the collection: if `recover` accepts, the key
its shares interpolate to IS the key the transcript of the returned `(threshold, M, R)` derives
(`Commune::verify` compares them: fix a9e7cc4 in known_findings.json). -/
theorem C05_accept_binds_key (F : Perm) (s0 : Adss.Share) (rest : List Adss.Share) (c : Commune)
    (hl : s0.J.length = 64) (h : Adss.recover F (s0 :: rest) = .ok c) :
    ∃ key, Sharks.recover s0.thr ((s0 :: rest).map (·.S)) = .ok key ∧
      key.take Params.adssKeyLen = keyOf F none c.thr c.M c.R := by
  obtain ⟨_, _, key, hk, _, _, _, hkey⟩ := C05_accept_implies_mac F s0 rest c h
  refine ⟨key, hk, ?_⟩
  rw [hkey, hl]; rfl

/-- (R) altered Shamir shares: if the first share carries the honest tag and threshold of `(t, M, R)`
but the collection interpolates to ANOTHER key than that sharing's, acceptance is a MAC collision:
the shared triple itself cannot come back -/
theorem C05_wrong_key_rejected_or_collision (F : Perm) (t : Nat) (M R : Bytes) (s0 : Adss.Share)
    (rest : List Adss.Share) (hthr : s0.thr = t) (hJ : s0.J = macOf F none t M R) (key : Bytes)
    (hk : Sharks.recover s0.thr ((s0 :: rest).map (·.S)) = .ok key)
    (hne : key.take Params.adssKeyLen ≠ keyOf F none t M R) (c : Commune)
    (h : Adss.recover F (s0 :: rest) = .ok c) :
    c ≠ ⟨t, M, R⟩ ∧ MacCollision F (c.thr, c.M, c.R) (t, M, R) := by
  obtain ⟨key', hk', hkey⟩ := C05_accept_binds_key F s0 rest c (by rw [hJ, macOf_length]) h
  cases hk.symm.trans hk'
  have hc : c ≠ ⟨t, M, R⟩ := fun he => hne (by rw [hkey, he])
  exact ⟨hc, (C05_message_or_collision F t M R s0 rest hthr hJ c h).resolve_left hc⟩

/-- (U) **nothing to decrypt, still bound**: with EMPTY encrypted message and coins (a sharing of the
empty message with empty coins) the key decrypts nothing and the MAC does not cover the Shamir
shares; the key comparison of fix a9e7cc4 alone rejects, unconditionally, a collection that
interpolates to another key than the sharing's -/
theorem C05_empty_sharing_wrong_key_rejected (F : Perm) (t : Nat) (s0 : Adss.Share) (rest : List Adss.Share)
    (hthr : s0.thr = t) (hC : s0.C = []) (hD : s0.D = []) (hJ : s0.J = macOf F none t [] []) (key : Bytes)
    (hk : Sharks.recover s0.thr ((s0 :: rest).map (·.S)) = .ok key)
    (hne : key.take Params.adssKeyLen ≠ keyOf F none t [] []) (c : Commune) :
    Adss.recover F (s0 :: rest) ≠ .ok c := by
  intro h
  obtain ⟨hct, _, key', hk', _, hM, hR, hkey⟩ := C05_accept_implies_mac F s0 rest c h
  cases hk.symm.trans hk'
  have hM' : c.M = [] := List.eq_nil_of_length_eq_zero (by rw [hM, hC]; exact Strobe.recvEnc_length F _ [])
  have hR' : c.R = [] := List.eq_nil_of_length_eq_zero (by rw [hR, hD]; exact Strobe.recvEnc_length F _ [])
  rw [hJ, macOf_length, hct, hthr, hM', hR'] at hkey
  exact hne hkey

/-- (U) **An altered encrypted message on the share that supplies the ciphertext changes the
decrypted message**, so by `C05_message_or_collision` acceptance is a MAC collision. -/
theorem C05_ct_tamper_changes_message (F : Perm) (s0 : Adss.Share) (rest : List Adss.Share) (c c' : Commune)
    (C' : Bytes) (hC : C' ≠ s0.C)
    (h : Adss.recover F (s0 :: rest) = .ok c)
    (h' : Adss.recover F ({ s0 with C := C' } :: rest) = .ok c') : c'.M ≠ c.M := by
  obtain ⟨_, _, key, hk, _, hM, _⟩ := C05_accept_implies_mac F s0 rest c h
  obtain ⟨_, _, key', hk', _, hM', _⟩ := C05_accept_implies_mac F { s0 with C := C' } rest c' h'
  -- the Shamir components are untouched, so both runs decrypt under the same key
  cases hk.symm.trans hk'
  exact fun heq => hC (Strobe.recvEnc_injective F _ _ _ (hM' ▸ hM ▸ heq))

/-- (U) a threshold raised above the number of distinct points is rejected -/
theorem C05_raised_threshold_rejected (F : Perm) (s0 : Adss.Share) (rest : List Adss.Share)
    (h : ((s0 :: rest).map (·.S.x)).toFinset.card < s0.thr) : ∃ k, Adss.recover F (s0 :: rest) = .err k := by
  cases hr : Adss.recover F (s0 :: rest) with
  | err k => exact ⟨k, rfl⟩
  | panic w => exact absurd hr (recover_not_panic F _ w)
  | ok c => exact absurd (recover_ok_count F s0 rest c hr).2 (Nat.not_le.mpr h)

/-- (U) **Threshold 1: the share point is free.** With threshold 1 the dealt polynomial is the
constant `K`, so changing the share point of a share yields exactly the honest share at the other
point: such an "alteration" is not a forgery and cannot be rejected (this is why the tamper oracle
does not demand rejection of point changes at threshold 1). -/
theorem C05_threshold_one_point_free (F : Perm) (fuel : Nat) (T : Option Strobe) (M R : Bytes) (d : Dealt)
    (hd : deal F fuel T 1 M R = some (.ok d)) (x x' : Nat) :
    (Sharks.evaluate d.polys x).y = (Sharks.evaluate d.polys x').y := by
  obtain ⟨cs, hcs, rfl⟩ := deal_ok_iff.mp hd
  obtain rfl := List.eq_nil_of_length_eq_zero (coeffs_spec hcs).1
  -- Horner's only step multiplies `0` by the point
  have hK : ∀ y, Sharks.evalPoly [Bytes.toNatLE (keyOf F T 1 M R)] y =
      Fp.add 0 (Bytes.toNatLE (keyOf F T 1 M R)) := fun y => by
    rw [Sharks.evalPoly, List.foldl_cons, List.foldl_nil, Fp.mul, Nat.zero_mul, Nat.zero_mod]
  exact congrArg (fun v => [v]) ((hK x).trans (hK x').symm)

-- non-vacuity: an honest pair of shares recovers; with one tag byte of the first share flipped it is rejected
example : (match share id 8 none 2 [4] [1] 3, share id 8 none 2 [4] [1] 5 with
    | some (.ok a), some (.ok b) =>
      some (Adss.recover id [a, b], Adss.recover id [{ a with J := a.J.set 0 (a.J.getD 0 0 + 1) }, b])
    | _, _ => none) = some (.ok ⟨2, [4], [1]⟩, .err "mac") := by decide +kernel

end StarModel.Props.C05
