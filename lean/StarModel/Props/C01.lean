/-
C01 — Threshold recovery: ≥ t matching reports always reveal measurement and associated data.
For every STROBE permutation `F`, measurement, epoch, threshold `t ≥ 1`, client randomness `rnd`
(arbitrary bytes: locally derived or from the randomness server), per-client associated data and
OS-random share points `x` (universally quantified), and every selection of reports.
-/
import StarModel.Lemmas.Skeleton
import StarModel.Lemmas.Star
import StarModel.Props.C08

namespace StarModel.Props.C01
open StarModel.Star

/-- a client: its associated data (or absence) and the share point its OS RNG drew -/
abbrev Client := Option Bytes × Nat

/-- `C01_recover_and_decrypt` for clients indexed by any type `ι` (`aux c`: the associated data of
client `c`, `pt c`: the share point its OS RNG drew). -/
theorem C01_recover_and_decrypt_of {ι : Type} (aux : ι → Option Bytes) (pt : ι → Nat) (F : Perm)
    (fuel : Nat) (m e : Bytes) (t : Nat) (ht : 1 ≤ t) (rnd : Bytes) (clients : List ι)
    (rep : ι → Message)
    (hgen : ∀ c ∈ clients, generate F fuel m e t rnd (aux c) (pt c) = some (.ok (rep c)))
    (hx : ∀ c ∈ clients, pt c < Fp.p)
    (hm : m.length < 2 ^ 32) (haux : ∀ c ∈ clients, ∀ a, aux c = some a → a.length < 2 ^ 32)
    (sel : List ι) (hsel : ∀ c ∈ sel, c ∈ clients)
    (hcount : t ≤ (sel.map pt).toFinset.card) :
    shareRecover F (sel.map fun c => (rep c).share) =
      .ok ⟨t, deriveRandom F rnd 0, deriveRandom F rnd 1⟩ ∧
    ∀ c ∈ clients,
      parsePayload (decrypt F (deriveSkeKey F (deriveRandom F rnd 0) e) (rep c).ciphertext
        Params.starEncryptLabel) = some (m, aux c) := by
  have hne : sel ≠ [] := by intro h; rw [h] at hcount; simp at hcount; omega
  obtain ⟨c0, hc0⟩ := List.exists_mem_of_ne_nil sel hne
  -- one client's report fixes the coefficients; every `rep c` is then a closed term
  obtain ⟨cs, hcs, -⟩ := generate_ok_iff.mp (hgen c0 (hsel c0 hc0))
  simp only [generate_eq, hcs, Option.map_some, Option.some.injEq, Outcome.ok.injEq] at hgen
  constructor
  · have heq : (sel.map fun c => (rep c).share) = (sel.map pt).map
        ((Adss.dealtOf F none t (deriveRandom F rnd 0) (deriveRandom F rnd 1) cs).shareAt t) := by
      rw [List.map_map]
      exact List.map_congr_left fun c hc => by rw [← hgen c (hsel c hc)]; rfl
    rw [heq]
    apply Adss.recover_honest F ht _ _ (Adss.coeffs_spec hcs).1 _ _ hcount
    intro x hx'
    obtain ⟨c, hc, rfl⟩ := List.mem_map.mp hx'
    exact hx c (hsel c hc)
  · intro c hc
    rw [← hgen c hc, decrypt_encrypt]
    exact parsePayload_payload m (aux c) hm (haux c hc)

/-- **Recovery and decryption.** Clients of one `(measurement, epoch, threshold, rnd)` produce
reports `rep c`. From EVERY selection `sel` of those reports — any order, repeats, surplus — that
contains `t` distinct share points, `share_recover` returns the commune `(t, r₀, r₁)`, and EVERY
client's ciphertext decrypts, under the key re-derived from the recovered message and the epoch,
to a payload that parses to exactly `(measurement, aux)` with `none`, `some []` and longer data
distinguished. -/
theorem C01_recover_and_decrypt (F : Perm) (fuel : Nat) (m e : Bytes) (t : Nat) (ht : 1 ≤ t) (rnd : Bytes)
    (clients : List Client) (rep : Client → Message)
    (hgen : ∀ c ∈ clients, generate F fuel m e t rnd c.1 c.2 = some (.ok (rep c)))
    (hx : ∀ c ∈ clients, c.2 < Fp.p)
    (hm : m.length < 2 ^ 32) (haux : ∀ c ∈ clients, ∀ a, c.1 = some a → a.length < 2 ^ 32)
    (sel : List Client) (hsel : ∀ c ∈ sel, c ∈ clients)
    (hcount : t ≤ (sel.map (·.2)).toFinset.card) :
    shareRecover F (sel.map fun c => (rep c).share) = .ok ⟨t, deriveRandom F rnd 0, deriveRandom F rnd 1⟩ ∧
    ∀ c ∈ clients,
      parsePayload (decrypt F (deriveSkeKey F (deriveRandom F rnd 0) e) (rep c).ciphertext
        Params.starEncryptLabel) = some (m, c.1) :=
  C01_recover_and_decrypt_of (ι := Client) (·.1) (·.2) F fuel m e t ht rnd clients rep hgen hx hm haux sel hsel
    hcount

/-- **Through the wire.** Every generated report survives `Message::to_bytes` / `from_bytes`
unchanged. -/
theorem C01_wire_roundtrip (F : Perm) (fuel : Nat) (m e : Bytes) (t : Nat) (ht : 1 ≤ t) (ht32 : t < 2 ^ 32)
    (rnd : Bytes) (aux : Option Bytes) (x : Nat) (hx : x < Fp.p) (msg : Message)
    (hpl : (payload m aux).length < 2 ^ 32)
    (h : generate F fuel m e t rnd aux x = some (.ok msg)) :
    Message.fromBytes msg.toBytes = .ok msg := by
  -- `ht` is not used: a report generated with threshold 0 has a valid encoding as well
  obtain ⟨cs, -, rfl⟩ := generate_ok_iff.mp h
  have h32 := deriveRandom_length F rnd
  have hadss := dealt_share_valid F ht32 (deriveRandom F rnd 0) (deriveRandom F rnd 1)
    (by rw [h32]; norm_num) (by rw [h32]; norm_num) cs hx
  refine C08.C08_message_roundtrip _ ⟨?_, hadss, ?_, by simp only [h32]; norm_num⟩
  · unfold encrypt; rw [Strobe.sendEnc_length]; exact hpl
  · rw [shareAt_toBytes_length, h32, h32]; norm_num

/-- **End to end through the wire.** The aggregation side sees only the bytes `(rep c).toBytes`:
decoding each with `Message::from_bytes` succeeds, and recovery and decryption from the DECODED
reports give the commune, the measurement and every client's associated data as in
`C01_recover_and_decrypt`. -/
theorem C01_recover_and_decrypt_from_wire (F : Perm) (fuel : Nat) (m e : Bytes) (t : Nat) (ht : 1 ≤ t)
    (ht32 : t < 2 ^ 32) (rnd : Bytes)
    (clients : List Client) (rep : Client → Message)
    (hgen : ∀ c ∈ clients, generate F fuel m e t rnd c.1 c.2 = some (.ok (rep c)))
    (hx : ∀ c ∈ clients, c.2 < Fp.p)
    (hm : m.length < 2 ^ 32) (haux : ∀ c ∈ clients, ∀ a, c.1 = some a → a.length < 2 ^ 32)
    (hpl : ∀ c ∈ clients, (payload m c.1).length < 2 ^ 32)
    (sel : List Client) (hsel : ∀ c ∈ sel, c ∈ clients)
    (hcount : t ≤ (sel.map (·.2)).toFinset.card) :
    ∃ dec : Client → Message,
      (∀ c ∈ clients, Message.fromBytes (rep c).toBytes = .ok (dec c)) ∧
      shareRecover F (sel.map fun c => (dec c).share) =
        .ok ⟨t, deriveRandom F rnd 0, deriveRandom F rnd 1⟩ ∧
      ∀ c ∈ clients,
        parsePayload (decrypt F (deriveSkeKey F (deriveRandom F rnd 0) e) (dec c).ciphertext
          Params.starEncryptLabel) = some (m, c.1) :=
  ⟨rep,
   fun c hc => C01_wire_roundtrip F fuel m e t ht ht32 rnd c.1 c.2 (hx c hc) (rep c) (hpl c hc) (hgen c hc),
   C01_recover_and_decrypt F fuel m e t ht rnd clients rep hgen hx hm haux sel hsel hcount⟩

/-- the `dec` of `C01_recover_and_decrypt_from_wire` is the only one: a server cannot decode the
same bytes to a different report. -/
theorem C01_decoded_report_unique (F : Perm) (fuel : Nat) (m e : Bytes) (t : Nat) (ht : 1 ≤ t)
    (ht32 : t < 2 ^ 32) (rnd : Bytes) (aux : Option Bytes) (x : Nat) (hx : x < Fp.p) (msg msg' : Message)
    (hpl : (payload m aux).length < 2 ^ 32)
    (h : generate F fuel m e t rnd aux x = some (.ok msg))
    (hdec : Message.fromBytes msg.toBytes = .ok msg') : msg' = msg :=
  -- (a term: `rw … at hdec` on this hypothesis is slow to elaborate)
  (Outcome.ok.inj ((C01_wire_roundtrip F fuel m e t ht ht32 rnd aux x hx msg hpl h).symm.trans hdec)).symm

/-- both randomness sources: the statement holds in particular for locally derived randomness -/
theorem C01_local_randomness (F : Perm) (fuel : Nat) (m e : Bytes) (t : Nat) (ht : 1 ≤ t)
    (clients : List Client) (rep : Client → Message)
    (hgen : ∀ c ∈ clients, generate F fuel m e t (sampleLocalRandomness F m e t) c.1 c.2 = some (.ok (rep c)))
    (hx : ∀ c ∈ clients, c.2 < Fp.p)
    (hm : m.length < 2 ^ 32) (haux : ∀ c ∈ clients, ∀ a, c.1 = some a → a.length < 2 ^ 32)
    (sel : List Client) (hsel : ∀ c ∈ sel, c ∈ clients)
    (hcount : t ≤ (sel.map (·.2)).toFinset.card) :
    ∃ r0 r1, shareRecover F (sel.map fun c => (rep c).share) = .ok ⟨t, r0, r1⟩ ∧
    ∀ c ∈ clients, parsePayload (decrypt F (deriveSkeKey F r0 e) (rep c).ciphertext
        Params.starEncryptLabel) = some (m, c.1) :=
  ⟨_, _, C01_recover_and_decrypt F fuel m e t ht _ clients rep hgen hx hm haux sel hsel hcount⟩

-- non-vacuity: threshold 2, aux none / some [] / some [7], selection [2,0,2]: client 1's payload parses to
-- (m, some [])
example :
    (match generate id 8 [5] [] 2 [9] none 3, generate id 8 [5] [] 2 [9] (some []) 4,
        generate id 8 [5] [] 2 [9] (some [7]) 6 with
    | some (.ok a), some (.ok b), some (.ok c) =>
      (match shareRecover id [c.share, a.share, c.share] with
       | .ok cm => some (parsePayload (decrypt id (deriveSkeKey id cm.M []) b.ciphertext Params.starEncryptLabel))
       | _ => none)
    | _, _, _ => none) = some (some ([5], some [])) := by decide +kernel

end StarModel.Props.C01
