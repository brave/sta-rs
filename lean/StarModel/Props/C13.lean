/-
C13 — Evaluation proofs are complete, sound against tampering, and never reuse a nonce.

(U) for every `F`, every hash-to-scalar behaviour it induces, every lawful group: completeness of
the batched DLEQ proof; special soundness (two accepting transcripts with the same commitments and
different challenges determine the key: the statement is then TRUE); injectivity of the challenge
transcript encoding (every field is read). (R) acceptance of a tampered tuple then means the
Fiat–Shamir hash hit the unique admissible challenge (forgery) or a transcript collision — the
random-oracle assumption of the VOPRF draft. (E) nonces/commitments of different requests are
distinct: OS RNG, measured by the oracle.
-/
import StarModel.Lemmas.Skeleton
import StarModel.Lemmas.Ppoprf

namespace StarModel.Props.C13
open StarModel.Ppoprf StarModel.Scalar25519

variable {G : Type} [AddCommGroup G] [Module S G] {ops : GroupOps G}

/-- the loop with and without a known key computes the same `m`; without a key, `z` accumulates
`Σ dᵢ • qᵢ`, which is `k • (Σ dᵢ • pᵢ)` when `qᵢ = k • pᵢ` -/
theorem compositesLoop_key (hl : Lawful ops) (F : Perm) (seed : Bytes) (k : S) (cs : List G) :
    ∀ (i : Nat) (m z z0 m' z' : G),
      compositesLoop ops F false seed i cs (cs.map (k • ·)) m z0 = .ok (m', z') →
      compositesLoop ops F true seed i cs (cs.map (k • ·)) m z = .ok (m', z + k • (m' - m)) := by
  induction cs with
  | nil =>
    intro i m z z0 m' z' h
    cases h
    rw [sub_self, smul_zero, add_zero]; rfl
  | cons c cs ih =>
    intro i m z z0 m' z' h
    rw [List.map_cons, compositesLoop] at h ⊢
    cases htr : compositeTranscript ops seed i c (k • c) with
    | err e => rw [htr] at h; cases h
    | panic w => rw [htr] at h; cases h
    | ok tr =>
      rw [htr] at h
      refine (ih _ _ (ops.add (ops.smul (hashToScalar F tr Params.dleqCompositeLabel) (k • c)) z)
        _ _ _ h).trans ?_
      -- `d • k • c + z + k • (m' - (d • c + m)) = z + k • (m' - m)`
      rw [hl.add_eq, hl.add_eq, hl.smul_eq, hl.smul_eq, smul_comm, ← sub_sub, sub_right_comm, smul_sub,
        add_comm _ z, add_assoc, add_sub_cancel]

theorem computeComposites_key (hl : Lawful ops) (F : Perm) (k : Nat) (B : G) (ps : List G) (m z : G)
    (h : computeComposites ops F (some k) B ps (ps.map (((k : S)) • ·)) = .ok (m, z)) :
    z = ops.smul k m ∧ computeComposites ops F none B ps (ps.map (((k : S)) • ·)) = .ok (m, z) := by
  rw [computeComposites_eq, if_neg (by simp)] at h ⊢
  obtain ⟨st, hst, h⟩ := Outcome.bind_eq_ok.1 h
  obtain ⟨⟨m1, z1⟩, hloop, h⟩ := Outcome.bind_eq_ok.1 h
  cases h
  have h2 := compositesLoop_key hl F _ (k : S) ps 0 ops.identity ops.identity _ _ _ hloop
  rw [hst, bind_ok, Option.isNone_none, h2]
  exact ⟨rfl, by simp [hl.identity_eq, hl.smul_eq]⟩

/-- (U) **Completeness.** For every key `k`, nonce `r`, batch `ps` and public value `k • B`:
the proof `new_batch` produces for `qᵢ = k • pᵢ` is accepted by `verify_batch`. -/
theorem C13_complete (hl : Lawful ops) (F : Perm) (k r : Nat) (ps : List G) (c s : Nat)
    (h : newBatch ops F k (ops.smul k ops.base) ps (ps.map (((k : S)) • ·)) r = .ok (c, s)) :
    verifyBatch ops F c s (ops.smul k ops.base) ps (ps.map (((k : S)) • ·)) = .ok true := by
  have hlab : Params.dleqVerifyChallengeLabel = Params.dleqChallengeLabel := Skeleton.two_sided_constants.2.2.2
  unfold newBatch at h
  obtain ⟨⟨m, z⟩, hcc, h1⟩ := Outcome.bind_eq_ok.1 h
  obtain ⟨tr, htr, h2⟩ := Outcome.bind_eq_ok.1 h1
  obtain ⟨rfl, hcc'⟩ := computeComposites_key hl F k _ ps m z hcc
  simp only [pure_eq, Outcome.ok.injEq, Prod.mk.injEq] at h2
  obtain ⟨rfl, rfl⟩ := h2
  -- the verifier recomputes the prover's commitments from `s = r - c k`
  have hcom : ∀ (c : Nat) (X : G), ops.add (ops.smul (Scalar25519.sub r (Scalar25519.mul c k)) X)
      (ops.smul c (ops.smul k X)) = ops.smul r X := fun c X => by
    rw [hl.add_eq, hl.smul_eq, hl.smul_eq, hl.smul_eq, sub_cast, mul_cast, smul_smul, ← add_smul,
      sub_add_cancel, hl.smul_eq]
  unfold verifyBatch
  rw [hcc']
  simp only [bind_ok, hcom, htr, pure_eq, hlab, beq_self_eq_true]

theorem dlog_of_two_responses (B X t : G) (c s c' s' : S) (hc : c ≠ c')
    (h : t = s • B + c • X) (h' : t = s' • B + c' • X) : X = ((s' - s) * (c - c')⁻¹) • B := by
  have hcc : c - c' ≠ 0 := sub_ne_zero.mpr hc
  have e : (c - c') • X = (s' - s) • B := by
    rw [sub_smul, sub_smul, sub_eq_sub_iff_add_eq_add, add_comm (c • X)]
    exact h.symm.trans h'
  calc X = (c - c')⁻¹ • ((c - c') • X) := by rw [smul_smul, inv_mul_cancel₀ hcc, one_smul]
    _ = ((s' - s) * (c - c')⁻¹) • B := by rw [e, smul_smul, mul_comm]

/-- (U) **Special soundness.** Two accepting responses with challenges `c ≠ c'` for the SAME
commitments `t₂, t₃` force the statement to be true: there is `k` with `pk = k • B` and `z = k • m`.
Equivalently: if the statement is false, at most ONE challenge value can be answered. -/
theorem C13_special_soundness (B pk m z t2 t3 : G) (c s c' s' : S) (hc : c ≠ c')
    (h2 : t2 = s • B + c • pk) (h3 : t3 = s • m + c • z)
    (h2' : t2 = s' • B + c' • pk) (h3' : t3 = s' • m + c' • z) :
    ∃ k : S, pk = k • B ∧ z = k • m :=
  ⟨_, dlog_of_two_responses B pk t2 c s c' s' hc h2 h2', dlog_of_two_responses m z t3 c s c' s' hc h3 h3'⟩

/-- (U) **The challenge transcript reads every field**: it determines the public value, both
composites and both commitments (fixed-length `I2OSP`-prefixed encodings, injective `compress`) -/
theorem C13_challenge_transcript_injective (hl : Lawful ops) (pv m z t2 t3 pv' m' z' t2' t3' : G) (tr : Bytes)
    (h : challengeTranscript ops pv m z t2 t3 = .ok tr)
    (h' : challengeTranscript ops pv' m' z' t2' t3' = .ok tr) :
    pv = pv' ∧ m = m' ∧ z = z' ∧ t2 = t2' ∧ t3 = t3' := by
  rw [challengeTranscript_eq] at h h'
  have e := (Outcome.ok.inj h).trans (Outcome.ok.inj h').symm
  have l := fun P Q => (hl.compress_length P).trans (hl.compress_length Q).symm
  -- peel the ten fixed-length fields from the right
  obtain ⟨e, a1⟩ := List.append_inj' e (l _ _)
  obtain ⟨e, -⟩ := List.append_inj' e rfl
  obtain ⟨e, a2⟩ := List.append_inj' e (l _ _)
  obtain ⟨e, -⟩ := List.append_inj' e rfl
  obtain ⟨e, a3⟩ := List.append_inj' e (l _ _)
  obtain ⟨e, -⟩ := List.append_inj' e rfl
  obtain ⟨e, a4⟩ := List.append_inj' e (l _ _)
  obtain ⟨e, -⟩ := List.append_inj' e rfl
  obtain ⟨-, a5⟩ := List.append_inj' e (l _ _)
  exact ⟨hl.compress_injective a5, hl.compress_injective a4, hl.compress_injective a3,
    hl.compress_injective a2, hl.compress_injective a1⟩

/-- (U) what acceptance means: the proof's challenge is the hash of the transcript over the
public value, the composites and the commitments RECOMPUTED from `(c, s)` -/
theorem C13_verify_iff (F : Perm) (c s : Nat) (pv : G) (ps qs : List G) (m z : G)
    (hc : computeComposites ops F none pv ps qs = .ok (m, z)) (tr : Bytes)
    (htr : challengeTranscript ops pv m z (ops.add (ops.smul s ops.base) (ops.smul c pv))
      (ops.add (ops.smul s m) (ops.smul c z)) = .ok tr) :
    verifyBatch ops F c s pv ps qs = .ok (c == hashToScalar F tr Params.dleqVerifyChallengeLabel) := by
  unfold verifyBatch
  rw [hc]
  simp only [bind_ok]
  rw [htr]
  rfl

/-- (U) **the largest legal public key loads**: a server registered with all 256 tags serialises
to `32 + 8 + 256·33 = 8488` bytes, which is within the size limit read from the source — so
restoring an honest public key never fails on the size guard (completeness after serialisation) -/
theorem C13_full_tag_key_within_limit :
    Params.compressedPointLen + 8 + 256 * (1 + Params.compressedPointLen) ≤ Params.maxSerializedPkSize ∧
    2 * 32 ≤ Params.maxSerializedProofSize := by decide

end StarModel.Props.C13
