/-
C07 — The share field is the integers mod 2^128+12451 with one canonical encoding.

Every statement is about `StarModel.Fp` (value-level model of `star_sharks::Fp`), whose modulus,
generator, endianness and element length are regenerated from sharks/src/share_ff.rs on every run.
The `fp` correspondence stream ties the model to the compiled `ff_derive` output.
-/
import StarModel.Lemmas.Field
import StarModel.Lemmas.Wire
import Mathlib.NumberTheory.LegendreSymbol.Basic

namespace StarModel.Props.C07
open StarModel.Fp

/-- the configured modulus is the prime 2^128 + 12451 -/
theorem C07_modulus : Fp.p = 2 ^ 128 + 12451 ∧ Nat.Prime Fp.p :=
  ⟨by decide +kernel, modulus_prime⟩

/-- `+ - neg double * square pow` return canonical values and agree with arithmetic in `ZMod p`,
for all operands -/
theorem C07_ring_ops (a b e : Nat) :
    (add a b < p ∧ ((add a b : Nat) : ZMod p) = a + b) ∧
    (sub a b < p ∧ ((sub a b : Nat) : ZMod p) = a - b) ∧
    (neg a < p ∧ ((neg a : Nat) : ZMod p) = -a) ∧
    (double a < p ∧ ((double a : Nat) : ZMod p) = 2 * a) ∧
    (mul a b < p ∧ ((mul a b : Nat) : ZMod p) = a * b) ∧
    (square a < p ∧ ((square a : Nat) : ZMod p) = (a : ZMod p) ^ 2) ∧
    (pow a e < p ∧ ((pow a e : Nat) : ZMod p) = (a : ZMod p) ^ e) :=
  ⟨⟨add_lt _ _, add_cast _ _⟩, ⟨sub_lt _ _, sub_cast _ _⟩, ⟨neg_lt _, neg_cast _⟩,
   ⟨double_lt _, double_cast _⟩, ⟨mul_lt _ _, mul_cast _ _⟩, ⟨square_lt _, square_cast _⟩,
   ⟨pow_lt _ _, pow_cast _ _⟩⟩

/-- big-integer reading: the operations are literally `(a ∘ b) mod p` on canonical operands -/
theorem C07_bigint (a b e : Nat) (ha : a < p) (hb : b < p) :
    add a b = (a + b) % p ∧ sub a b = (a + p - b) % p ∧ neg a = (p - a) % p ∧
    double a = (2 * a) % p ∧ mul a b = (a * b) % p ∧ square a = (a * a) % p ∧ pow a e = a ^ e % p := by
  refine ⟨rfl, ?_, ?_, ?_, rfl, rfl, powMod_eq _ _ _⟩
  · rw [sub, Nat.mod_eq_of_lt hb, Nat.add_sub_assoc hb.le]
  · rw [neg, Nat.mod_eq_of_lt ha]
  · rw [double, Nat.two_mul]

/-- inversion: `None` exactly on zero, otherwise the canonical multiplicative inverse -/
theorem C07_invert (a : Nat) :
    (invert a = none ↔ (a : ZMod p) = 0) ∧
    ((a : ZMod p) ≠ 0 → ∃ r, invert a = some r ∧ r < p ∧ (r : ZMod p) * a = 1) := by
  refine ⟨invert_none_iff a, fun h => ?_⟩
  obtain ⟨r, hr, hlt, hc⟩ := invert_some a h
  exact ⟨r, hr, hlt, by rw [hc]; exact inv_mul_cancel₀ h⟩

/-- square roots: a returned value is a canonical root, and a root is returned iff one exists -/
theorem C07_sqrt (a : Nat) :
    (∀ r, sqrt a = some r → r < p ∧ (r : ZMod p) ^ 2 = a) ∧
    ((sqrt a).isSome ↔ IsSquare (a : ZMod p)) := by
  refine ⟨fun r h => sqrt_sound a r h, ⟨fun h => ?_, sqrt_complete a⟩⟩
  obtain ⟨r, hr⟩ := Option.isSome_iff_exists.mp h
  exact ⟨r, by rw [← (sqrt_sound a r hr).2]; ring⟩

/-- exactly one 24-byte little-endian encoding per element; everything else is rejected -/
theorem C07_canonical_encoding :
    Params.reprLittleEndian = true ∧ reprLen = 24 ∧ Params.fieldElementLen = 24 ∧
    (∀ a, (toRepr a).length = 24) ∧
    (∀ a, a < p → fromRepr (toRepr a) = some a) ∧
    (∀ bs a, fromRepr bs = some a ↔ bs.length = 24 ∧ Bytes.toNatLE bs < p ∧ Bytes.toNatLE bs = a) ∧
    (∀ bs a, fromRepr bs = some a → toRepr a = bs) ∧
    (∀ a b, a < p → b < p → toRepr a = toRepr b → a = b) := by
  refine ⟨rfl, reprLen_eq, rfl, toRepr_length, fromRepr_toRepr, fromRepr_eq_some_iff,
    fun bs a h => ((fromRepr_iff bs a).mp h).2, fun a b ha hb h => ?_⟩
  have := congrArg fromRepr h
  rwa [fromRepr_toRepr a ha, fromRepr_toRepr b hb, Option.some.injEq] at this

theorem generator_order : orderOf ((Params.generator : Nat) : ZMod p) = p - 1 :=
  (lucas_hyps p Params.generator pm1Factors p_gt_one pm1Factors_prod pm1Factors_prime (by decide +kernel)
    (by decide +kernel)).elim (orderOf_eq_of_pow_and_pow_div_prime (Nat.sub_pos_of_lt p_gt_one))

/-- `p ≡ 3 (mod 4)`, so `-1` is a non-residue -/
theorem isSquare_neg_iff {a : ZMod p} (ha : a ≠ 0) : IsSquare (-a) ↔ ¬ IsSquare a := by
  rw [← quadraticChar_one_iff_isSquare (neg_ne_zero.mpr ha), ← quadraticChar_neg_one_iff_not_isSquare,
    ← neg_one_mul a, map_mul, quadraticChar_neg_one ringChar_ne_two, ZMod.card,
    ZMod.χ₄_nat_three_mod_four p_mod_four, neg_one_mul, neg_eq_iff_eq_neg]

theorem generator_cast_ne_zero : ((Params.generator : Nat) : ZMod p) ≠ 0 := fun h => by
  have := generator_order
  rw [h, orderOf_zero] at this
  have := p_gt_one; omega

/-- the published constants have the meaning `ff::PrimeField` assigns to them -/
theorem C07_constants :
    numBits = 129 ∧ capacity = 128 ∧ twoAdicity = 1 ∧ p - 1 = 2 ^ twoAdicity * tOdd ∧ tOdd % 2 = 1 ∧
    (twoInv < p ∧ (2 : ZMod p) * (twoInv : Nat) = 1) ∧
    (multiplicativeGenerator < p ∧ orderOf ((multiplicativeGenerator : Nat) : ZMod p) = p - 1 ∧
      ¬ IsSquare ((multiplicativeGenerator : Nat) : ZMod p)) ∧
    (rootOfUnity < p ∧ ((rootOfUnity : Nat) : ZMod p) = ((multiplicativeGenerator : Nat) : ZMod p) ^ tOdd ∧
      ((rootOfUnity : Nat) : ZMod p) ^ 2 ^ twoAdicity = 1 ∧
      ((rootOfUnity : Nat) : ZMod p) ^ 2 ^ (twoAdicity - 1) ≠ 1) ∧
    (rootOfUnityInv < p ∧ ((rootOfUnity : Nat) : ZMod p) * (rootOfUnityInv : Nat) = 1) ∧
    (delta < p ∧ ((delta : Nat) : ZMod p) = ((multiplicativeGenerator : Nat) : ZMod p) ^ 2 ^ twoAdicity) := by
  have hgen : ((multiplicativeGenerator : Nat) : ZMod p) = ((Params.generator : Nat) : ZMod p) := ZMod.natCast_mod _ _
  have hroot : ((rootOfUnity : Nat) : ZMod p) = ((Params.generator : Nat) : ZMod p) ^ tOdd := pow_cast _ _
  refine ⟨numBits_eq, by unfold capacity; rw [numBits_eq], twoAdicity_eq,
    by rw [twoAdicity_eq, tOdd_eq]; decide +kernel, by rw [tOdd_eq]; decide +kernel,
    ⟨pow_lt _ _, ?_⟩, ⟨Nat.mod_lt _ p_pos, by rw [hgen]; exact generator_order, ?_⟩,
    ⟨pow_lt _ _, by rw [hgen, hroot], ?_, ?_⟩, ⟨pow_lt _ _, ?_⟩,
    ⟨pow_lt _ _, ?_⟩⟩
  · -- both inverses are Fermat inverses, no evaluation needed
    rw [twoInv, pow_cast, pow_sub_two_eq_inv (by decide +kernel), Nat.cast_ofNat]
    exact mul_inv_cancel₀ (Ring.two_ne_zero ringChar_ne_two)
  · -- non-residue: g^((p-1)/2) = rootOfUnity = -1 ≠ 1
    rw [hgen, ZMod.euler_criterion p generator_cast_ne_zero, ← tOdd_eq, ← hroot, rootOfUnity_cast]
    exact neg_one_ne_one
  · rw [rootOfUnity_cast, twoAdicity_eq]; norm_num
  · rw [rootOfUnity_cast, twoAdicity_eq]; simpa using neg_one_ne_one
  · rw [rootOfUnityInv, pow_cast, pow_sub_two_eq_inv (by decide +kernel), rootOfUnity_cast]
    exact mul_inv_cancel₀ (neg_ne_zero.mpr one_ne_zero)
  · -- `2 ^ twoAdicity` is `Nat.pow` in the model and `Monoid.npow` here: with the exponent rewritten first the
    -- kernel does not run the loop of `twoAdicity` to compare them
    rw [hgen, delta, twoAdicity_eq, pow_cast]

/-- `sqrt_ratio` never trips the assertion of `ff::helpers::sqrt_ratio_generic`. This rests on the
generator being a non-residue, so that `ROOT_OF_UNITY = -1`: with a residue such as 3 it is 1 and
`sqrt_ratio(1, 1)` trips the assertion (fix 18e0145 in known_findings.json). -/
theorem C07_sqrtRatio_total (num div : Nat) : (sqrtRatio num div).isSome := by
  unfold sqrtRatio
  simp only
  generalize ha : mul ((invert div).getD 0) num = a
  have hsa := (C07_sqrt a).2
  have hsb : (sqrt (mul a rootOfUnity)).isSome ↔ IsSquare (-(a : ZMod p)) := by
    rw [(C07_sqrt _).2, mul_cast, rootOfUnity_cast, mul_neg_one]
  have hac : (a : ZMod p) = 0 ↔ num % p = 0 ∨ div % p = 0 := by
    rw [← ha, mul_cast, invert_getD_cast, mul_eq_zero, inv_eq_zero, cast_eq_zero_iff, cast_eq_zero_iff,
      or_comm]
  -- `a = 0` is its own root; otherwise exactly one of the candidates `a`, `-a` has a root
  have key : (num % p = 0 ∨ div % p = 0) ∧ (sqrt a).isSome ∨
      ((sqrt a).isSome ↔ ¬ (sqrt (mul a rootOfUnity)).isSome) := by
    by_cases h0 : (a : ZMod p) = 0
    · exact .inl ⟨hac.mp h0, hsa.mpr (h0 ▸ IsSquare.zero)⟩
    · exact .inr (by rw [hsa, hsb, isSquare_neg_iff h0, not_not])
  clear ha hsa hsb hac
  -- a case check on the two roots is left; the residues are abstracted too, or `simp_all` works on `%`
  generalize sqrt a = sa, sqrt (mul a rootOfUnity) = sb, num % p = n, div % p = d at key ⊢
  cases sa <;> cases sb <;> simp_all

-- non-vacuity: concrete operands meet the hypotheses; a concrete non-canonical string is rejected
example : (2 ^ 128 + 12450 : Nat) < p ∧ add (2 ^ 128 + 12450) 1 = 0 := by decide +kernel
example : fromRepr (Bytes.ofNatLE 24 p) = none := by decide +kernel
example : fromRepr (Bytes.ofNatLE 24 (p - 1)) = some (p - 1) := by decide +kernel
example : sqrtRatio 1 1 = some (true, 1) := by decide +kernel

end StarModel.Props.C07
