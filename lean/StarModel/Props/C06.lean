/-
C06 — Secret sharing is textbook Shamir over GF(2^128+12451).

All statements are about `StarModel.Sharks`, the statement-by-statement model of
sharks/src/lib.rs and sharks/src/share_ff.rs, for every threshold, secret, RNG (`next`, any state
type) and every selection of shares. `K = ZMod p` with `p` prime (C07) is the "independent
big-integer model": `polyOf` is an honest `Polynomial (ZMod p)`.
-/
import StarModel.Lemmas.Dealer

namespace StarModel.Props.C06
open StarModel.Sharks

variable {σ : Type}

/-- **Dealer structure.** A successful `dealer_rng` deals, for the secret's complete 24-byte chunks
(a trailing partial chunk is ignored), one polynomial per chunk: `t-1` consecutive `Fp::random`
draws of the supplied RNG (each polynomial continuing where the previous one stopped: every
coefficient is a separate draw) followed by the chunk's element as constant term. -/
theorem C06_dealer_structure (next : σ → σ × Nat) (fuel t : Nat) (secret : Bytes) (g g' : σ)
    (polys : List (List Nat)) (h : dealerRng next fuel t secret g = some (.ok (g', polys))) :
    ∃ elems : List Nat,
      (chunks 24 (secret.length / 24) secret).map Fp.fromRepr = elems.map some ∧
      (∀ e ∈ elems, e < Fp.p) ∧
      DealtFrom next fuel t elems g g' polys ∧
      polys.length = secret.length / 24 := by
  obtain ⟨elems, (hcs : chunks 24 (secret.length / 24) secret = _), hel, hdf⟩ :=
    dealPolys_eq_some next fuel t _ g _ h
  refine ⟨elems, ?_, hel, hdf, ?_⟩
  · rw [hcs, List.map_map]
    exact List.map_congr_left fun e he => (Function.comp_apply.trans (Fp.fromRepr_toRepr e (hel e he)))
  · rw [hdf.length, ← List.length_map (f := Fp.toRepr), ← hcs, chunks, List.length_map, List.length_range]

/-- each dealt polynomial has exactly `t` coefficients (degree ≤ t-1) for `t ≥ 1`, canonical
coefficients, and the secret's element as constant term -/
theorem C06_polynomial_shape (next : σ → σ × Nat) (fuel t : Nat) (ht : 1 ≤ t) (secret : Bytes) (g g' : σ)
    (polys : List (List Nat)) (h : dealerRng next fuel t secret g = some (.ok (g', polys))) :
    Dealt t polys ∧ (∀ poly ∈ polys, ∀ c ∈ poly, c < Fp.p) ∧
    (∀ poly ∈ polys, (polyOf poly).degree < t) ∧
    secretOf polys = secret.take (24 * (secret.length / 24)) := by
  obtain ⟨elems, hcs, hel, hdf⟩ := dealPolys_eq_some next fuel t _ g _ h
  obtain ⟨hd, hsec, hc⟩ := hdf.dealt ht hel
  exact ⟨hd, hc, fun poly hp => (hd poly hp).1 ▸ polyOf_degree_lt poly,
    by rw [hsec, ← hcs]; exact chunks_flatten _ _⟩

/-- **Refusal.** A secret containing an out-of-range element is refused rather than altered;
a secret whose elements are all in range is never refused; the dealer never panics. -/
theorem C06_dealer_refusal (next : σ → σ × Nat) (fuel t : Nat) (secret : Bytes) (g : σ) :
    ((∃ c ∈ chunks 24 (secret.length / 24) secret, Fp.fromRepr c = none) →
        ∀ r, dealerRng next fuel t secret g ≠ some (.ok r)) ∧
    ((∀ c ∈ chunks 24 (secret.length / 24) secret, (Fp.fromRepr c).isSome) →
        ∀ k, dealerRng next fuel t secret g ≠ some (.err k)) ∧
    (∀ w, dealerRng next fuel t secret g ≠ some (.panic w)) := by
  refine ⟨fun ⟨c, hc, hn⟩ r h => ?_, fun hall k h => ?_, fun w h => dealPolys_eq_some next fuel t _ g _ h⟩
  · obtain ⟨elems, hcs, hel, -⟩ := dealPolys_eq_some next fuel t _ g _ h
    obtain ⟨e, he, rfl⟩ := List.mem_map.mp (show c ∈ elems.map Fp.toRepr from hcs ▸ hc)
    cases (Fp.fromRepr_toRepr e (hel e he)).symm.trans hn
  · obtain ⟨c, hc, hn⟩ := dealPolys_eq_some next fuel t _ g _ h
    cases hn ▸ hall c hc

/-- **Every share is a point on the dealt polynomials**: `(x, f₁(x), …, f_k(x))` with
`f_j = polyOf (polys j)` evaluated in `ZMod p`, values canonical. -/
theorem C06_share_is_point (polys : List (List Nat)) (x : Nat) :
    (evaluate polys x).x = x ∧ (evaluate polys x).y.length = polys.length ∧
    ∀ j (hj : j < polys.length), ∃ (hj' : j < (evaluate polys x).y.length),
      (((evaluate polys x).y[j] : Nat) : K) = (polyOf polys[j]).eval (x : K) := by
  refine ⟨rfl, evaluate_y_length polys x, fun j hj => ⟨(evaluate_y_length polys x).symm ▸ hj, ?_⟩⟩
  simp only [evaluate, List.getElem_map]
  exact evalPoly_cast _ _

/-- shares from the sequential iterator: the `n`-th `next()` sits at `x = n mod p`, which is
non-zero for `1 ≤ n < p` -/
theorem C06_iterator_points (polys : List (List Nat)) (n : Nat) :
    let step := fun (x : Nat) => (nextShare polys x).1
    (Nat.iterate step n 0 = n % Fp.p) ∧
    (nextShare polys (n % Fp.p)).2 = evaluate polys ((n + 1) % Fp.p) ∧
    (1 ≤ n → n < Fp.p → n % Fp.p ≠ 0) := by
  refine ⟨?_, congrArg (evaluate polys) (Nat.mod_add_mod n Fp.p 1), fun h1 h2 => ?_⟩
  · induction n with
    | zero => exact (Nat.zero_mod _).symm
    | succ n ih => rw [Function.iterate_succ_apply', ih]; exact Nat.mod_add_mod n Fp.p 1
  · rw [Nat.mod_eq_of_lt h2]; exact Nat.ne_of_gt h1

/-- shares from random points (`Evaluator::gen`): the point is a canonical **non-zero** draw of the
supplied RNG and the share is the evaluation there -/
theorem C06_gen_nonzero (next : σ → σ × Nat) (fuel : Nat) (polys : List (List Nat)) (g g' : σ)
    (sh : Share) (h : gen next fuel polys g = some (g', sh)) :
    sh.x ≠ 0 ∧ sh.x < Fp.p ∧ sh = evaluate polys sh.x := by
  revert h
  fun_cases gen next fuel polys g <;> intro h <;> cases h
  rename_i hr
  exact ⟨(randomNonzero_spec next fuel _ _ _ _ hr).1, (randomNonzero_spec next fuel _ _ _ _ hr).2, rfl⟩

/-- **Recovery.** For any dealing with threshold `t ≥ 1` and ANY collection of its shares
(any order, with duplicates and surplus): recovery returns exactly the secret's bytes when the
collection holds at least `t` distinct points, and refuses otherwise. -/
theorem C06_recover (next : σ → σ × Nat) (fuel t : Nat) (ht : 1 ≤ t) (secret : Bytes) (g g' : σ)
    (polys : List (List Nat)) (h : dealerRng next fuel t secret g = some (.ok (g', polys)))
    (xs : List Nat) (hx : ∀ x ∈ xs, x < Fp.p) :
    recover t (xs.map (evaluate polys)) =
      if t ≤ xs.toFinset.card then .ok (secret.take (24 * (secret.length / 24))) else .err "few" := by
  obtain ⟨hd, _, _, hsec⟩ := C06_polynomial_shape next fuel t ht secret g g' polys h
  rw [recover_evaluate t ht polys hd xs hx, hsec]

/-- order independence, as a corollary: any two collections with the same set of points behave alike -/
theorem C06_recover_order_independent (t : Nat) (ht : 1 ≤ t) (polys : List (List Nat)) (hp : Dealt t polys)
    (xs ys : List Nat) (hx : ∀ x ∈ xs, x < Fp.p) (hy : ∀ y ∈ ys, y < Fp.p)
    (hset : xs.toFinset = ys.toFinset) :
    recover t (xs.map (evaluate polys)) = recover t (ys.map (evaluate polys)) := by
  rw [recover_evaluate t ht polys hp xs hx, recover_evaluate t ht polys hp ys hy, hset]

/-- shares of unequal length are refused; threshold 0 never recovers; recovery never panics —
for arbitrary shares, not only dealt ones -/
theorem C06_recover_refusals (t : Nat) (s0 : Share) (rest : List Share) :
    ((∃ s ∈ rest, s.y.length ≠ s0.y.length) → recover t (s0 :: rest) = .err "length") ∧
    (∃ k, recover 0 (s0 :: rest) = .err k) ∧
    (∀ w, recover t (s0 :: rest) ≠ .panic w) :=
  ⟨recover_ragged t s0 rest, recover_threshold_zero _, fun w => recover_not_panic t _ w⟩

-- non-vacuity: a concrete dealing (list RNG), recovered from a permuted selection with a duplicate
private def lnext (ws : List Nat) : List Nat × Nat := match ws with | [] => ([], 0) | w :: r => (r, w)
example : ((dealerRng lnext 4 2 (Bytes.ofNatLE 24 7) [5, 6, 0]).bind fun o =>
    match o with
    | .ok (_, polys) => some (recover 2 ([3, 1, 3].map (evaluate polys)))
    | _ => none) = some (.ok (Bytes.ofNatLE 24 7)) := by decide +kernel

end StarModel.Props.C06
