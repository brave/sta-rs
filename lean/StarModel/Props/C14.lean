/-
C14 — Randomness server answers iff tag registered and unpunctured, under any history.

The model's `Server` is a value, so `clone` is a value copy; `eval` is pure, and a history is the
list of its `puncture` calls (`afterPunctures`). The theorems lift the GGM refinement (C10) through
`Server::{new, eval, puncture}`, for EVERY history, every `F` and every group dictionary: what
puncturing leaves alone (`C14_frame`), what a server answers (`C14_eval_characterisation`,
`C14_answer_constant`), which tags are registered (`C14_registered_iff`). Export + import (feature
`key-sync`) is proved at the level of bytes: importing the bincode of the exported key state into any
server yields the exporter (`C14_export_import_bytes`), for every server `Server::new` creates and
every history (`serverValid_new`, `serverValid_afterPunctures`). The `server` correspondence stream
runs histories over several slots with `clone` and export + import on the real `Server` and compares
every answer with the model.
-/
import StarModel.Lemmas.Ppoprf
import StarModel.Lemmas.Bincode
import StarModel.Lemmas.KeyState
import StarModel.Props.C10

namespace StarModel.Props.C14
open StarModel.Ppoprf StarModel.Ggm

/-- `server.puncture(md)` as the caller experiences it: on `Err` the server is unchanged -/
def applyPuncture (F : Perm) (srv : Server) (md : UInt8) : Server :=
  match Server.puncture F srv md with
  | .ok s => s
  | _ => srv

/-- the server after a history of puncture calls (evaluations do not change it) -/
def afterPunctures (F : Perm) (srv : Server) (mds : List UInt8) : Server := mds.foldl (applyPuncture F) srv

theorem applyPuncture_eq (F : Perm) (srv : Server) (md : UInt8) :
    applyPuncture F srv md =
      { srv with ggm := (Ggm.step (srv.g F) Params.ggmInpLen srv.ggm (.puncture [md])).1 } := by
  cases h : Ggm.puncture (srv.g F) Params.ggmInpLen srv.ggm [md] <;>
    simp only [applyPuncture, Server.puncture, Ggm.step, h, ofGgm]

theorem afterPunctures_eq (F : Perm) (srv : Server) (mds : List UInt8) :
    afterPunctures F srv mds =
      { srv with
        ggm := (Ggm.run (srv.g F) Params.ggmInpLen srv.ggm (mds.map fun md => .puncture [md])).1 } := by
  induction mds generalizing srv with
  | nil => rfl
  | cons md mds ih => rw [afterPunctures, List.foldl_cons, ← afterPunctures, ih, applyPuncture_eq]; rfl

/-- (U) **Puncturing never changes the OPRF key, the public key or the PRG keys**, and the GGM key
evolves exactly as the GGM state machine of C10 -/
theorem C14_frame (F : Perm) (srv : Server) (mds : List UInt8) :
    (afterPunctures F srv mds).oprfKey = srv.oprfKey ∧ (afterPunctures F srv mds).publicKey = srv.publicKey ∧
    (afterPunctures F srv mds).prgKey0 = srv.prgKey0 ∧ (afterPunctures F srv mds).prgKey1 = srv.prgKey1 ∧
    (afterPunctures F srv mds).ggm =
      (Ggm.run (srv.g F) Params.ggmInpLen srv.ggm (mds.map fun md => Ggm.Op.puncture [md])).1 := by
  rw [afterPunctures_eq]
  exact ⟨rfl, rfl, rfl, rfl, rfl⟩

theorem afterPunctures_inv (F : Perm) (srv0 : Server) (s0 s1 : Bytes) (hg : srv0.ggm = initKey s0 s1)
    (mds : List UInt8) :
    ∃ P, Inv (srv0.g F) (8 * Params.ggmInpLen) s0 s1 (afterPunctures F srv0 mds).ggm P ∧ P.Nodup ∧
      ∀ md, inputBits [md] ∈ P ↔ md ∈ mds := by
  refine ⟨(specRun (srv0.g F) Params.ggmInpLen s0 s1 [] (mds.map fun md => .puncture [md])).1, ?_,
    specRun_nodup _ _ _ _ _ [] .nil, fun md => ?_⟩
  · rw [afterPunctures_eq, hg]
    exact (run_spec _ (inv_init _ _ (by decide) s0 s1)).2
  · have : ∀ a, inputBits [a] = inputBits [md] ↔ a = md :=
      fun a => ⟨fun e => by simpa using inputBits_injective e, fun e => e ▸ rfl⟩
    simp [mem_specRun, Params.ggmInpLen, this]

variable {G : Type} {ops : GroupOps G}

/-- the tag scalar of an unpunctured registered tag: a function of the initial seeds only -/
noncomputable def idealTagScalar (F : Perm) (k0 k1 s0 s1 : Bytes) (md : UInt8) : Nat :=
  Scalar25519.fromBytesModOrder (ideal (Ggm.strobeG F k0 k1) s0 s1 (inputBits [md]))

/-- (U) the GGM part: after ANY puncture history on a server whose tree started from `(s0, s1)`,
the tag scalar of `md` is available iff `md` was not punctured, and then it is the ideal one —
the same value as before any puncturing -/
theorem tagScalar_after (F : Perm) (srv0 : Server) (s0 s1 : Bytes) (hg : srv0.ggm = initKey s0 s1)
    (mds : List UInt8) (md : UInt8) :
    tagScalar F (afterPunctures F srv0 mds).prgKey0 (afterPunctures F srv0 mds).prgKey1
        (afterPunctures F srv0 mds).ggm md =
      if md ∈ mds then .err "NoPrefixFound"
      else .ok (idealTagScalar F srv0.prgKey0 srv0.prgKey1 s0 s1 md) := by
  obtain ⟨P, hinv, _, hP⟩ := afterPunctures_inv F srv0 s0 s1 hg mds
  obtain ⟨_, _, h3, h4, _⟩ := C14_frame F srv0 mds
  rw [tagScalar, h3, h4, show Ggm.strobeG F srv0.prgKey0 srv0.prgKey1 = srv0.g F from rfl, hinv.eval_eq,
    if_neg (by simp [Params.ggmInpLen])]
  by_cases hm : md ∈ mds <;> simp only [hP, hm, if_true, if_false] <;> rfl

/-- (U) **Answers iff registered and unpunctured; the answer never changes.** For a server whose
GGM tree started from `(s0, s1)`, after ANY history of punctures `mds` (repeats and failures
included), a non-verifiable evaluation is: `BadPointEncoding` for an undecodable point, else
`BadTag` for an unregistered tag, else `NoPrefixFound` for a punctured tag, else the point
`(k + ts(md))⁻¹ • P` with `ts(md)` fixed at key creation — independent of the history. -/
theorem C14_eval_characterisation (F : Perm) (srv0 : Server) (s0 s1 : Bytes) (hg : srv0.ggm = initKey s0 s1)
    (mds : List UInt8) (pb : Bytes) (md : UInt8) (n : Nat) :
    Server.eval ops F (afterPunctures F srv0 mds) pb md false n =
      match ops.decompress pb with
      | none => .err "BadPointEncoding"
      | some pt =>
        if (srv0.publicKey.get md).isNone then .err "BadTag"
        else if md ∈ mds then .err "NoPrefixFound"
        else .ok (ops.compress (evalPoint ops srv0.oprfKey
          (idealTagScalar F srv0.prgKey0 srv0.prgKey1 s0 s1 md) pt), none) := by
  obtain ⟨h1, h2, _, _, _⟩ := C14_frame F srv0 mds
  rw [eval_verifiable_false, h2, tagScalar_after F srv0 s0 s1 hg mds md, h1]
  cases ops.decompress pb with
  | none => rfl
  | some pt => by_cases hm : md ∈ mds <;> simp only [hm, if_true, if_false] <;> rfl

/-- (U) in either mode, a successful answer after any history is that same point -/
theorem C14_answer_constant (F : Perm) (srv0 : Server) (s0 s1 : Bytes) (hg : srv0.ggm = initKey s0 s1)
    (mds : List UInt8) (pb : Bytes) (md : UInt8) (v : Bool) (n : Nat) (out : Bytes) (pr : Option (Nat × Nat))
    (h : Server.eval ops F (afterPunctures F srv0 mds) pb md v n = .ok (out, pr)) :
    md ∉ mds ∧ (srv0.publicKey.get md).isSome = true ∧
    ∃ pt, ops.decompress pb = some pt ∧
      out = ops.compress
        (evalPoint ops srv0.oprfKey (idealTagScalar F srv0.prgKey0 srv0.prgKey1 s0 s1 md) pt) := by
  obtain ⟨pt, ts, hd, hreg, hts, hout⟩ := eval_ok F _ pb md v n out pr h
  obtain ⟨h1, h2, _, _, _⟩ := C14_frame F srv0 mds
  rw [tagScalar_after F srv0 s0 s1 hg mds md] at hts
  by_cases hm : md ∈ mds
  · rw [if_pos hm] at hts; cases hts
  · rw [if_neg hm] at hts
    injection hts with hts
    refine ⟨hm, by rw [← h2]; exact hreg, pt, hd, ?_⟩
    rw [hout, h1, hts]

theorem new_ok {F : Perm} {key : Nat} {k0 k1 s0 s1 : Bytes} {mds0 : List UInt8} {srv0 : Server}
    (h : Server.new ops F key k0 k1 s0 s1 mds0 = .ok srv0) :
    ∃ pks, newMdPks ops F k0 k1 (initKey s0 s1) mds0 [] = .ok pks ∧
      srv0 = ⟨key, ⟨ops.compress (ops.smul key ops.base), pks⟩, k0, k1, initKey s0 s1⟩ := by
  unfold Server.new at h
  cases hn : newMdPks ops F k0 k1 (initKey s0 s1) mds0 [] <;> simp only [hn] at h <;> cases h
  exact ⟨_, rfl, rfl⟩

theorem newMdPks_ok {F : Perm} {k0 k1 : Bytes} {ggm : Ggm.Key Bytes} :
    ∀ {l : List UInt8} {acc res : List (UInt8 × Bytes)}, newMdPks ops F k0 k1 ggm l acc = .ok res →
      ∃ es : List (UInt8 × Bytes), es.map Prod.fst = l ∧ (∀ e ∈ es, ∃ P, e.2 = ops.compress P) ∧
        res = es.foldl (fun acc e => mdInsert e.1 e.2 acc) acc
  | [], acc, res, h => ⟨[], rfl, by simp, by cases h; rfl⟩
  | md :: l, acc, res, h => by
    rw [newMdPks] at h
    cases hts : tagScalar F k0 k1 ggm md <;> simp only [hts] at h <;> try cases h
    obtain ⟨es, h1, h2, h3⟩ := newMdPks_ok h
    exact ⟨(md, _) :: es, by simp [h1], List.forall_mem_cons.2 ⟨⟨_, rfl⟩, h2⟩, h3⟩

/-- (U) **registered = the tags given at key creation** -/
theorem C14_registered_iff (F : Perm) (key : Nat) (k0 k1 s0 s1 : Bytes) (mds0 : List UInt8) (srv0 : Server)
    (h : Server.new ops F key k0 k1 s0 s1 mds0 = .ok srv0) (md : UInt8) :
    (srv0.publicKey.get md).isSome = true ↔ md ∈ mds0 := by
  obtain ⟨pks, hn, rfl⟩ := new_ok h
  obtain ⟨es, rfl, _, rfl⟩ := newMdPks_ok hn
  -- a tag is found iff it is a key of the map
  refine Iff.trans ?_ ((Codec.mem_keys_foldl_mdInsert md es []).trans (by simp))
  simp [PublicKey.get]

/-- (U) clones and restored copies are the same value: what one does to a copy afterwards cannot
affect the original — slots are independent in the value model -/
theorem C14_slots_independent (F : Perm) (slots : List Server) (i j : Nat) (hij : i ≠ j) (md : UInt8)
    (hi : i < slots.length) :
    (slots.set i (applyPuncture F slots[i] md))[j]? = slots[j]? := by
  rw [List.getElem?_set_ne hij]

/-! ### export + import at the level of BYTES (feature `key-sync`) -/

/-- what `Server::get_private_key` hands to the serialiser: OPRF key, public key, and the
puncturable key (its two PRG keys, retained nodes, punctured list) -/
def exportState (srv : Server) : Codec.KeyState :=
  ⟨srv.oprfKey, srv.publicKey, [srv.prgKey0, srv.prgKey1], srv.ggm⟩

/-- `bincode::serialize(&server.get_private_key())` -/
def exportBytes (srv : Server) : Bytes := Codec.keyStateToBincode (exportState srv)

/-- `Server::set_private_key(bincode::deserialize(bytes)?)`: whole-state replacement - nothing of the
importing server survives (a GGM key with other than two PRG keys cannot be evaluated; it is not a
server value of this model) -/
def importBytes (_dst : Server) (bs : Bytes) : Option Server :=
  match Codec.keyStateFromBincode bs with
  | some ⟨k, pk, [k0, k1], ggm⟩ => some ⟨k, pk, k0, k1, ggm⟩
  | _ => none

/-- the servers `Server::new` creates (and every server reached from one): canonical OPRF key,
32-byte group elements in a strictly ordered tag map, 32-byte PRG keys -/
structure ServerValid (srv : Server) : Prop where
  key : srv.oprfKey < Scalar25519.ell
  base : srv.publicKey.basePk.length = 32
  tags : Codec.StrictTags srv.publicKey.mdPks
  entries : ∀ e ∈ srv.publicKey.mdPks, e.2.length = 32
  prg0 : srv.prgKey0.length = 32
  prg1 : srv.prgKey1.length = 32

theorem importBytes_exportBytes (srv dst : Server) (h : Codec.KeyStateValid (exportState srv))
    (tail : Bytes) :
    importBytes dst (exportBytes srv ++ tail) = some srv := by
  unfold importBytes exportBytes
  rw [Codec.keyStateFromBincode_emit _ h]
  rfl

theorem keyStateValid_afterPunctures (F : Perm) (srv0 : Server) (s0 s1 : Bytes)
    (hg : srv0.ggm = initKey s0 s1) (hv : ServerValid srv0) (hs0 : s0.length = 32)
    (hs1 : s1.length = 32) (mds : List UInt8) :
    Codec.KeyStateValid (exportState (afterPunctures F srv0 mds)) := by
  obtain ⟨P, hinv, hnd, _⟩ := afterPunctures_inv F srv0 s0 s1 hg mds
  rw [afterPunctures_eq] at hinv ⊢
  refine ⟨hv.key, hv.base, hv.tags, hv.entries, by simp [exportState, hv.prg0, hv.prg1],
    by simp [exportState], ?_, fun p hp => ⟨(hinv.bounds p hp).2.trans (by decide), ?_⟩, ?_, fun b hb => ?_⟩
  · -- fewer than 2^9 retained nodes: distinct bit strings of length at most 8
    have := nodup_bits_length_lt _ 8 (nodup_of_prefixFree _ hinv.prefixFree)
      fun p hp => by obtain ⟨ps, hps, rfl⟩ := List.mem_map.1 hp; exact (hinv.bounds ps hps).2
    rw [List.length_map] at this
    exact this.trans (by decide)
  · rw [hinv.seeds p hp]
    obtain ⟨b, rest, hbr⟩ := List.exists_cons_of_ne_nil (hinv.bounds p hp).1
    rw [hbr, ideal_cons]
    show (bitEval (Ggm.strobeG F srv0.prgKey0 srv0.prgKey1) rest _).length < 2 ^ 64
    rw [bitEval_length]
    cases b <;> split <;> simp [hs0, hs1, Params.ggmSeedLen]
  · -- fewer than 2^9 punctured inputs: distinct bit strings of length 8
    refine hinv.punct ▸ ?_
    exact (nodup_bits_length_lt _ 8 hnd fun x hx => (hinv.full x hx).le).trans (by decide)
  · rw [hinv.full b (hinv.punct ▸ hb)]; decide

/-- (U) **A server restored from exported state is the exporter at the moment of export — at the
level of bytes.** For a valid server whose GGM tree started from `(s0, s1)`, after ANY history of
punctures, serialising its key state with bincode (bitvec layout included) and importing those bytes
(followed by any trailing bytes) into ANY other server yields exactly the exporter's value. With
`C14_eval_characterisation` this makes the restored server answer every request as the exporter
does, every puncture made so far included. (bincode / bitvec formats are modelled, see `Codec.lean`,
and tied to the crates by the `codec` and `server` streams.) -/
theorem C14_export_import_bytes (F : Perm) (srv0 : Server) (s0 s1 : Bytes) (hg : srv0.ggm = initKey s0 s1)
    (hv : ServerValid srv0) (hs0 : s0.length = 32) (hs1 : s1.length = 32)
    (mds : List UInt8) (dst : Server) (tail : Bytes) :
    importBytes dst (exportBytes (afterPunctures F srv0 mds) ++ tail) = some (afterPunctures F srv0 mds) :=
  importBytes_exportBytes _ dst (keyStateValid_afterPunctures F srv0 s0 s1 hg hv hs0 hs1 mds) tail

theorem serverValid_afterPunctures (F : Perm) (srv0 : Server) (hv : ServerValid srv0) (mds : List UInt8) :
    ServerValid (afterPunctures F srv0 mds) := by
  rw [afterPunctures_eq]
  exact ⟨hv.key, hv.base, hv.tags, hv.entries, hv.prg0, hv.prg1⟩

/-- (U) what `Server::new` creates over a group with 32-byte encodings is a valid server: together
with `C14_export_import_bytes` and `serverValid_afterPunctures`, every server of every history can
be exported and restored byte-exactly -/
theorem serverValid_new (hcl : ∀ P : G, (ops.compress P).length = 32) (F : Perm) (key : Nat)
    (hkey : key < Scalar25519.ell) (k0 k1 s0 s1 : Bytes) (hk0 : k0.length = 32) (hk1 : k1.length = 32)
    (mds0 : List UInt8) (srv0 : Server) (h : Server.new ops F key k0 k1 s0 s1 mds0 = .ok srv0) :
    ServerValid srv0 ∧ srv0.ggm = initKey s0 s1 := by
  obtain ⟨pks, hn, rfl⟩ := new_ok h
  obtain ⟨es, _, hes, rfl⟩ := newMdPks_ok hn
  exact ⟨⟨hkey, hcl _, Codec.insertAll_strict es,
    Codec.insertAll_mem es (·.length = 32) fun e he => by obtain ⟨P, hP⟩ := hes e he; rw [hP]; exact hcl P,
    hk0, hk1⟩, rfl⟩

end StarModel.Props.C14
