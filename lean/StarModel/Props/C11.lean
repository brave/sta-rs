/-
C11 — After puncturing, the retained key material does not contain (or determine) the punctured
values: what a `GGM` key RETAINS at any reachable state.

Same setting as C10: `StarModel.Ggm`, generic in the seed type, the PRG `g`, the first-level seeds
and the input length `inpLen ≥ 1`; every statement is for every history of calls (`keyAfter`,
`puncturedAfter` from C10).
-/
import StarModel.Props.C10
import StarModel.Props.C14

namespace StarModel.Props.C11
open StarModel.Ggm StarModel.Props.C10

variable {Seed : Type}

/-- for every punctured input `x`, no retained node is a prefix of `x`: no node of the root→`x` path
survives at any depth, the leaf `x` included -/
theorem C11_no_ancestor_retained (g : Bool → Seed → Seed) (inpLen : Nat) (hpos : 1 ≤ inpLen)
    (s0 s1 : Seed) (hist : List Op) (x : Bits) (hx : x ∈ puncturedAfter g inpLen s0 s1 hist) :
    (∀ ps ∈ (keyAfter g inpLen s0 s1 hist).prefixes, ¬ ps.1 <+: x) ∧
    (∀ i, x.take i ∉ (keyAfter g inpLen s0 s1 hist).prefixes.map Prod.fst) ∧
    x ∉ (keyAfter g inpLen s0 s1 hist).prefixes.map Prod.fst ∧
    x.length = 8 * inpLen := by
  have hinv := (C10_reachable_inv g inpLen hpos s0 s1 hist).1
  have h1 := hinv.no_ancestor hx
  have h2 : ∀ y, y <+: x → y ∉ (keyAfter g inpLen s0 s1 hist).prefixes.map Prod.fst := by
    rintro _ hy hm
    obtain ⟨ps, hps, rfl⟩ := List.mem_map.1 hm
    exact h1 ps hps hy
  exact ⟨h1, fun i => h2 _ (List.take_prefix _ _), h2 _ (List.prefix_refl _), hinv.full x hx⟩

/-- every unpunctured full-length input lies below exactly one retained node: existence,
uniqueness of the member, and exactly one storage position; a punctured one below none -/
theorem C11_cover (g : Bool → Seed → Seed) (inpLen : Nat) (hpos : 1 ≤ inpLen)
    (s0 s1 : Seed) (hist : List Op) (x : Bits) (hl : x.length = 8 * inpLen) :
    (x ∉ puncturedAfter g inpLen s0 s1 hist →
      (∃ ps ∈ (keyAfter g inpLen s0 s1 hist).prefixes, ps.1 <+: x ∧
        ∀ ps' ∈ (keyAfter g inpLen s0 s1 hist).prefixes, ps'.1 <+: x → ps' = ps) ∧
      ((keyAfter g inpLen s0 s1 hist).prefixes.filter fun ps => ps.1.isPrefixOf x).length = 1) ∧
    (x ∈ puncturedAfter g inpLen s0 s1 hist →
      ((keyAfter g inpLen s0 s1 hist).prefixes.filter fun ps => ps.1.isPrefixOf x).length = 0) := by
  have hinv := (C10_reachable_inv g inpLen hpos s0 s1 hist).1
  refine ⟨fun hx => ⟨?_, by rw [hinv.filter_length hl, if_neg hx]⟩,
    fun hx => by rw [hinv.filter_length hl, if_pos hx]⟩
  obtain ⟨ps, hps, hpre⟩ := (hinv.cover x hl).2 hx
  exact ⟨ps, hps, hpre, fun ps' hps' hpre' => hinv.unique_cover hps' hps hpre' hpre⟩

/-- the root seed is never stored: no retained prefix is empty (each has between 1 and `8 * inpLen`
bits) at any reachable state; the fresh key stores exactly the two depth-1 nodes -/
theorem C11_no_root (g : Bool → Seed → Seed) (inpLen : Nat) (hpos : 1 ≤ inpLen)
    (s0 s1 : Seed) (hist : List Op) :
    (∀ ps ∈ (keyAfter g inpLen s0 s1 hist).prefixes,
      ps.1 ≠ [] ∧ 1 ≤ ps.1.length ∧ ps.1.length ≤ 8 * inpLen) ∧
    (initKey s0 s1).prefixes = [([false], s0), ([true], s1)] ∧
    keyAfter g inpLen s0 s1 [] = initKey s0 s1 := by
  have hinv := (C10_reachable_inv g inpLen hpos s0 s1 hist).1
  refine ⟨fun ps hps => ?_, rfl, rfl⟩
  obtain ⟨h1, h2⟩ := hinv.bounds ps hps
  exact ⟨h1, List.length_pos_iff.2 h1, h2⟩

/-- every retained seed is the ideal seed of its node, and every retained node lies OFF every
punctured path; so the retained material is a function (`ideal`) of a set of nodes none of which is
an ancestor of (or equal to) a punctured input -/
theorem C11_retained_seeds_are_ideal (g : Bool → Seed → Seed) (inpLen : Nat) (hpos : 1 ≤ inpLen)
    (s0 s1 : Seed) (hist : List Op) :
    (∀ ps ∈ (keyAfter g inpLen s0 s1 hist).prefixes,
      ps.2 = ideal g s0 s1 ps.1 ∧ ∀ x ∈ puncturedAfter g inpLen s0 s1 hist, ¬ ps.1 <+: x) ∧
    (keyAfter g inpLen s0 s1 hist).prefixes =
      ((keyAfter g inpLen s0 s1 hist).prefixes.map Prod.fst).map fun p => (p, ideal g s0 s1 p) := by
  have hinv := (C10_reachable_inv g inpLen hpos s0 s1 hist).1
  refine ⟨fun ps hps => ⟨hinv.seeds ps hps, fun x hx => hinv.no_ancestor hx ps hps⟩, ?_⟩
  rw [List.map_map]
  exact (List.map_id _).symm.trans (List.map_congr_left fun ps hps => Prod.ext rfl (hinv.seeds ps hps))

/-- reduction: descending from ANY retained seed to ANY leaf below it never yields the value of a
punctured input, unless the PRG collides — if it did, the explicit collision of
`C10_distinct_values` (between the path to that leaf and the path to the punctured input) exists -/
theorem C11_punctured_value_not_derivable (g : Bool → Seed → Seed) (inpLen : Nat) (hpos : 1 ≤ inpLen)
    (s0 s1 : Seed) (hist : List Op) (x : Bits) (hx : x ∈ puncturedAfter g inpLen s0 s1 hist)
    (ps : Bits × Seed) (hps : ps ∈ (keyAfter g inpLen s0 s1 hist).prefixes) (r : Bits)
    (hr : (ps.1 ++ r).length = 8 * inpLen)
    (heq : bitEval g r ps.2 = ideal g s0 s1 x) :
    let y := ps.1 ++ r
    y ≠ x ∧
    ((s0 = s1 ∧ y.getD 0 false ≠ x.getD 0 false) ∨
     ∃ i, 1 ≤ i ∧ i < y.length ∧
      (y.getD i false, ideal g s0 s1 (y.take i)) ≠ (x.getD i false, ideal g s0 s1 (x.take i)) ∧
      g (y.getD i false) (ideal g s0 s1 (y.take i)) = g (x.getD i false) (ideal g s0 s1 (x.take i))) := by
  intro y
  have hinv := (C10_reachable_inv g inpLen hpos s0 s1 hist).1
  have hne : y ≠ x := by
    intro h
    exact hinv.no_ancestor hx ps hps ⟨r, h⟩
  refine ⟨hne, C10_distinct_values g s0 s1 y x ?_ ?_ hne ?_⟩
  · rw [hinv.full x hx]; exact hr
  · rw [show y.length = 8 * inpLen from hr]; omega
  · show ideal g s0 s1 (ps.1 ++ r) = _
    rw [ideal_append g s0 s1 _ _ (hinv.bounds ps hps).1, ← hinv.seeds ps hps, heq]

/-! ### non-vacuity on the concrete instance of C10 (`gN`, one-byte inputs, `demoHist`) -/

-- punctured inputs exist, and retained nodes exist
example : inputBits [0] ∈ puncturedAfter gN 1 2 3 demoHist := by decide +kernel
example : (keyAfter gN 1 2 3 demoHist).prefixes.length = 14 := by decide +kernel
-- no retained node is a prefix of the punctured input 0 or 1; input 2 has exactly one
example : ((keyAfter gN 1 2 3 demoHist).prefixes.filter fun ps => ps.1.isPrefixOf (inputBits [0])).length = 0 := by
  decide +kernel
example : ((keyAfter gN 1 2 3 demoHist).prefixes.filter fun ps => ps.1.isPrefixOf (inputBits [1])).length = 0 := by
  decide +kernel
example : ((keyAfter gN 1 2 3 demoHist).prefixes.filter fun ps => ps.1.isPrefixOf (inputBits [2])).length = 1 := by
  decide +kernel
-- retained seeds are the ideal seeds of their nodes
example : (keyAfter gN 1 2 3 demoHist).prefixes =
    ((keyAfter gN 1 2 3 demoHist).prefixes.map Prod.fst).map fun p => (p, ideal gN 2 3 p) := by
  decide +kernel
-- puncturing a stored leaf removes it and adds nothing: 0 and 128 are the two leaves below `0000000` (bit 0
-- first)
example : (keyAfter gN 1 2 3 [.puncture [0], .puncture [128]]).prefixes.map Prod.fst =
    [[true], [false, false, false, false, false, false, true], [false, false, false, false, false, true],
     [false, false, false, false, true], [false, false, false, true], [false, false, true], [false, true]] := by
  decide +kernel

open StarModel.Ppoprf in
/-- (U) **The server's key state after any puncture history.** For a server whose GGM tree started
from `(s0, s1)` and EVERY history `mds` of `Server::puncture` calls - registered tags or not, repeats
included - the puncturable key the server holds (the `ggm_key` that `get_private_key` exports
verbatim, next to the OPRF key and the public key) contains no node on the path to any tag of the
history, and every other tag is covered by exactly one retained node. -/
theorem C11_server_key_state (F : Perm) (srv0 : Server) (s0 s1 : Bytes) (hg : srv0.ggm = initKey s0 s1)
    (mds : List UInt8) (md : UInt8) :
    (md ∈ mds → ∀ ps ∈ (C14.afterPunctures F srv0 mds).ggm.prefixes, ¬ ps.1 <+: inputBits [md]) ∧
    (md ∉ mds → ((C14.afterPunctures F srv0 mds).ggm.prefixes.filter
        fun ps => ps.1.isPrefixOf (inputBits [md])).length = 1) := by
  obtain ⟨P, hinv, _, hP⟩ := C14.afterPunctures_inv F srv0 s0 s1 hg mds
  refine ⟨fun hm => hinv.no_ancestor ((hP md).2 hm), fun hm => ?_⟩
  rw [hinv.filter_length (by simp [inputBits_length, Params.ggmInpLen]), if_neg (mt (hP md).1 hm)]

end StarModel.Props.C11
