/-
C02 — Sub-threshold confidentiality: fewer than t distinct shares never yield key or message.

Clause kinds. (U): the count gate of the recovery interface, perfect secrecy of Shamir sharing
below the threshold (every candidate secret is consistent with any k < t shares; uniquely for
k = t-1), and the structure of the dealt polynomial (t-1 separate draws + the key). (R): a
rewritten threshold is accepted only with a MAC collision. (E): statistical statements about the
sampled coefficients / absence of secrets in the report bytes are measured by the oracle on the
implementation and reported as evidence, not as theorems.
-/
import StarModel.Lemmas.Skeleton
import StarModel.Props.C05

open Polynomial

namespace StarModel.Props.C02
open StarModel.Adss

/-- (U) **Count gate.** Whatever the shares contain: if the recovery interface returns a commune,
the threshold recorded in the FIRST share is ≥ 1 and the collection holds at least that many
DISTINCT share points — repeated shares never count. -/
theorem C02_count_gate (F : Perm) (s0 : Adss.Share) (rest : List Adss.Share) (c : Commune)
    (h : Adss.recover F (s0 :: rest) = .ok c) :
    1 ≤ s0.thr ∧ s0.thr ≤ ((s0 :: rest).map (·.S.x)).toFinset.card :=
  recover_ok_count F s0 rest c h

/-- (U) hence a collection that holds fewer distinct share points than the first share's threshold
— padded with duplicates or not — fails outright -/
theorem C02_below_threshold_fails (F : Perm) (s0 : Adss.Share) (rest : List Adss.Share)
    (h : ((s0 :: rest).map (·.S.x)).toFinset.card < s0.thr) : ∃ k, Adss.recover F (s0 :: rest) = .err k :=
  C05.C05_raised_threshold_rejected F s0 rest h

/-- (R) **Rewritten threshold.** Shares of the sharing `(t, M, R)`; the threshold field of the
first share rewritten to `t' ≠ t` (smaller, to make a sub-threshold collection pass the count gate,
or larger). If recovery accepts, the MAC collides on two distinct triples. -/
theorem C02_forged_threshold (F : Perm) (t t' : Nat) (M R : Bytes) (s0 : Adss.Share) (rest : List Adss.Share)
    (hne : t' ≠ t) (hthr : s0.thr = t') (hJ : s0.J = macOf F none t M R) (c : Commune)
    (h : Adss.recover F (s0 :: rest) = .ok c) :
    C05.MacCollision F (c.thr, c.M, c.R) (t, M, R) := by
  have hmac := C05.C05_altered_tag_is_forgery F s0 rest c (by rw [hJ, macOf_length]) h
  refine ⟨fun heq => hne ?_, hmac.trans hJ⟩
  rw [← hthr, ← (C05.C05_accept_implies_mac F s0 rest c h).1]
  exact (Prod.mk.inj heq).1

/-- (U) **Perfect secrecy below the threshold.** `k < t` shares (non-zero points, any values) are
consistent with EVERY candidate secret `s`: some polynomial of degree `< t` has constant term `s`
and passes through them. -/
theorem C02_shamir_secrecy (t : Nat) (xs : Finset Sharks.K) (ys : Sharks.K → Sharks.K)
    (hk : xs.card < t) (h0 : (0 : Sharks.K) ∉ xs) (s : Sharks.K) :
    ∃ f : Sharks.K[X], f.degree < t ∧ f.eval 0 = s ∧ ∀ x ∈ xs, f.eval x = ys x := by
  classical
  -- interpolate through the points and `(0, s)`
  let r : Sharks.K → Sharks.K := fun x => if x = 0 then s else ys x
  have hinj : Set.InjOn (id : Sharks.K → Sharks.K) (insert 0 xs : Finset Sharks.K) := fun _ _ _ _ h => h
  refine ⟨Lagrange.interpolate (insert 0 xs) id r, ?_, ?_, fun x hx => ?_⟩
  · refine lt_of_lt_of_le (Lagrange.degree_interpolate_lt r hinj) ?_
    rw [Finset.card_insert_of_notMem h0]; exact_mod_cast hk
  · exact (Lagrange.eval_interpolate_at_node r hinj (Finset.mem_insert_self 0 xs)).trans (if_pos rfl)
  · exact (Lagrange.eval_interpolate_at_node r hinj (Finset.mem_insert_of_mem hx)).trans
      (if_neg fun (h : x = 0) => h0 (h ▸ hx))

/-- (U) with exactly `t - 1` points the consistent polynomial is unique for each candidate secret -/
theorem C02_shamir_unique (t : Nat) (xs : Finset Sharks.K) (hk : xs.card + 1 = t) (h0 : (0 : Sharks.K) ∉ xs)
    (f g : Sharks.K[X]) (hf : f.degree < t) (hg : g.degree < t) (hs : f.eval 0 = g.eval 0)
    (hx : ∀ x ∈ xs, f.eval x = g.eval x) : f = g := by
  classical
  have hc : (insert 0 xs).card = t := by rw [Finset.card_insert_of_notMem h0, hk]
  apply Polynomial.eq_of_degrees_lt_of_eval_finset_eq (insert 0 xs) (by rw [hc]; exact hf) (by rw [hc]; exact hg)
  intro x hx'
  rcases Finset.mem_insert.mp hx' with rfl | hx'
  · exact hs
  · exact hx x hx'

/-- (U) **Structure of the sharing polynomial.** What `Commune::share` deals is ONE polynomial of
degree ≤ t-1: `t-1` consecutive `Fp::random` draws of the transcript-seeded RNG (canonical field
elements), then the zero-padded 16-byte key as constant term. -/
theorem C02_poly_structure (F : Perm) (fuel : Nat) (T : Option Strobe) (t : Nat) (ht : 1 ≤ t) (M R : Bytes)
    (d : Dealt) (hd : deal F fuel T t M R = some (.ok d)) :
    ∃ cs g', d.polys = [cs ++ [Bytes.toNatLE d.K]] ∧ d.K = keyOf F T t M R ∧
      Sharks.drawFp (rngNext F) fuel (t - 1)
        ⟨(Strobe.prf F (Strobe.sendMac F (macTranscript F T t M R) Params.macLength).1 Params.adssKeyLen).1⟩ =
        some (g', cs) ∧
      cs.length = t - 1 ∧ (∀ c ∈ cs, c < Fp.p) ∧ Bytes.toNatLE d.K < 2 ^ 128 ∧
      (Sharks.polyOf (cs ++ [Bytes.toNatLE d.K])).degree < t := by
  obtain ⟨cs, hcs, rfl⟩ := deal_ok_iff.mp hd
  obtain ⟨⟨g', cs⟩, hdraw, rfl⟩ := Option.map_eq_some_iff.mp hcs
  obtain ⟨hl, hlt⟩ := coeffs_spec hcs
  refine ⟨cs, g', rfl, rfl, hdraw, hl, hlt, ?_, ?_⟩
  · have := Bytes.toNatLE_lt (keyOf F T t M R)
    rwa [keyOf_length, show (256 : Nat) ^ 16 = 2 ^ 128 by norm_num] at this
  · have := Sharks.polyOf_degree_lt (cs ++ [Bytes.toNatLE (keyOf F T t M R)])
    rwa [List.length_append, hl, List.length_singleton, Nat.sub_add_cancel ht] at this

-- non-vacuity: a concrete sub-threshold collection (three copies of one share, one distinct point, t = 2) is refused
example : (match share id 8 none 2 [4] [1] 3 with
    | some (.ok a) => some (Adss.recover id [a, a, a])
    | _ => none) = some (.err "few") := by decide +kernel

end StarModel.Props.C02
