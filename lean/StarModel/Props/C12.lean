/-
C12 — PPOPRF output depends only on (server key, tag, input), never on the blinding.

For every STROBE permutation `F` and every LAWFUL group dictionary (a vector space over the prime
field `ZMod ℓ` with canonical injective 32-byte encoding — what ristretto255 is specified to be;
the executable `Ristretto.ops` is validated against curve25519-dalek by the ristretto/ppoprf
streams, its group laws are not proved). Scalars `r` (blinding) and `k + ts` (tagged key) are
assumed non-zero where the real code silently relies on it (probability 2⁻²⁵²).
-/
import StarModel.Lemmas.Skeleton
import StarModel.Lemmas.Ppoprf

namespace StarModel.Props.C12
open StarModel.Ppoprf StarModel.Scalar25519

variable {G : Type} [AddCommGroup G] [Module S G] {ops : GroupOps G}

/-- (U) **Unblinding the evaluation of a blinded input is the evaluation of the input point.**
For every input, tag, blinding `r ≠ 0`, mode and nonce: if the server answers the blinded request,
then `Client::unblind` succeeds and yields exactly what the server returns for the unblinded input
point `H(input)` — a value that does not mention `r`. -/
theorem C12_unblind_eval_blind (hl : Lawful ops) (F : Perm) (srv : Server) (input : Bytes) (md : UInt8)
    (r : Nat) (hr : (r : S) ≠ 0) (v : Bool) (n : Nat) (out : Bytes) (pr : Option (Nat × Nat))
    (h : Server.eval ops F srv (Client.blindWith ops F input r) md v n = .ok (out, pr)) :
    ∃ ts unblinded,
      tagScalar F srv.prgKey0 srv.prgKey1 srv.ggm md = .ok ts ∧
      Client.unblind ops out r = .ok unblinded ∧
      unblinded = ops.compress ((((srv.oprfKey : S) + (ts : S))⁻¹) • Client.hashToGroup ops F input) ∧
      Server.eval ops F srv (ops.compress (Client.hashToGroup ops F input)) md false 0 = .ok (unblinded, none) := by
  obtain ⟨pt, ts, hd, hreg, hts, rfl⟩ := eval_ok F srv _ md v n out pr h
  rw [Client.blindWith, hl.decompress_compress] at hd
  cases hd
  refine ⟨ts, _, hts, ?_, rfl, ?_⟩
  · -- `r⁻¹ • (k + ts)⁻¹ • r • H = (k + ts)⁻¹ • H`
    rw [Client.unblind, hl.decompress_compress]
    simp only [evalPoint_eq hl, hl.smul_eq, invert_cast]
    rw [smul_comm _ (r : S), inv_smul_smul₀ hr]
  · rw [eval_nonverifiable F srv _ md 0 _ ts (hl.decompress_compress _) hreg hts, evalPoint_eq hl]

/-- (U) hence two requests with different blindings `r₁, r₂` finalise to the same 32-byte output -/
theorem C12_finalize_independent_of_blinding (hl : Lawful ops) (F : Perm) (srv : Server) (input : Bytes)
    (md : UInt8) (r1 r2 : Nat) (h1 : (r1 : S) ≠ 0) (h2 : (r2 : S) ≠ 0) (v1 v2 : Bool) (n1 n2 : Nat)
    (o1 o2 : Bytes) (p1 p2 : Option (Nat × Nat)) (u1 u2 : Bytes)
    (e1 : Server.eval ops F srv (Client.blindWith ops F input r1) md v1 n1 = .ok (o1, p1))
    (e2 : Server.eval ops F srv (Client.blindWith ops F input r2) md v2 n2 = .ok (o2, p2))
    (hu1 : Client.unblind ops o1 r1 = .ok u1) (hu2 : Client.unblind ops o2 r2 = .ok u2) :
    u1 = u2 ∧ Client.finalize F input md u1 = Client.finalize F input md u2 := by
  obtain ⟨ts1, _, ht1, hw1, rfl, _⟩ := C12_unblind_eval_blind hl F srv input md r1 h1 v1 n1 o1 p1 e1
  obtain ⟨ts2, _, ht2, hw2, rfl, _⟩ := C12_unblind_eval_blind hl F srv input md r2 h2 v2 n2 o2 p2 e2
  cases ht1.symm.trans ht2
  cases hu1.symm.trans hw1
  cases hu2.symm.trans hw2
  exact ⟨rfl, rfl⟩

/-- (U) **different tagged keys / servers give different output points**: for a non-zero input
point the evaluation `k⁻¹ • P` determines the tagged key `k` -/
theorem C12_key_separates (P : G) (hP : P ≠ 0) (k k' : S)
    (h : k⁻¹ • P = k'⁻¹ • P) : k = k' :=
  inv_inj.mp (smul_left_injective S hP h)

/-- (U) **different input points give different output points** under the same tagged key -/
theorem C12_input_point_separates (P Q : G) (k : S) (hk : k ≠ 0) (h : k⁻¹ • P = k⁻¹ • Q) : P = Q := by
  have := congrArg (fun X => k • X) h
  simpa [smul_smul, mul_inv_cancel₀ hk] using this

/-- (U) **a blinded request equals the unblinded input point `P ≠ 0` only for `r = 1`**, and
determines `r` -/
theorem C12_blinding_injective (P : G) (hP : P ≠ 0) (r r' : S) :
    (r • P = P → r = 1) ∧ (r • P = r' • P → r = r') :=
  ⟨fun h => smul_left_injective S hP (h.trans (one_smul S P).symm), fun h => smul_left_injective S hP h⟩

/-- (U) the hash input of `finalize`, `input ‖ md ‖ point`, parses uniquely from the right once
the point has its fixed length: different (input, tag, point) give different hash inputs -/
theorem C12_finalize_input_injective (i1 i2 : Bytes) (m1 m2 : UInt8) (p1 p2 : Bytes)
    (hl : p1.length = p2.length) (h : i1 ++ [m1] ++ p1 = i2 ++ [m2] ++ p2) :
    i1 = i2 ∧ m1 = m2 ∧ p1 = p2 := by
  have hp := List.append_inj_right' h hl
  have h2 := List.append_inj_left' h hl
  have hm := List.append_inj_right' h2 rfl
  have hi := List.append_inj_left' h2 rfl
  exact ⟨hi, by simpa using hm, hp⟩

-- the scalar identity of `C12_unblind_eval_blind` in the module `ZMod ℓ` over itself, at non-zero `P`, `r`,
-- `k`
example : ∃ (P : S) (r k : S), P ≠ 0 ∧ r ≠ 0 ∧ k ≠ 0 ∧ r⁻¹ • k⁻¹ • r • P = k⁻¹ • P :=
  ⟨1, 2, 3, one_ne_zero, by decide +kernel, by decide +kernel, by
    simp only [smul_eq_mul, mul_one]
    have h2 : (2 : S) ≠ 0 := by decide +kernel
    field_simp⟩

end StarModel.Props.C12
