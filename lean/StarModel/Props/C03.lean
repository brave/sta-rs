/-
C03 — Associated data stays confidential below threshold (no keystream reuse).

The third clause of the property is FALSE of the code, and this file proves it: the payload
cipher is a plain STROBE `send_enc` on a state that depends only on (label, key), and the key
depends only on (measurement, epoch, threshold) (C04). Hence for two clients of one measurement
the XOR of the two ciphertexts EQUALS the XOR of the two payloads on the whole first duplex block
(166 bytes) — for every permutation `F`. This is recorded as an open known finding (repairing it
needs a per-report nonce, i.e. a wire/protocol change); the witness is replayed against the real
crate on every run. What does hold is kept as `C03_partial_*`.
-/
import StarModel.Lemmas.Skeleton
import StarModel.Lemmas.Keystream
import StarModel.Lemmas.Star

namespace StarModel.Props.C03
open StarModel.Star StarModel.Strobe

/-- the keystream of the first block: a function of (label, key) only -/
def keystreamState (F : Perm) (key : Bytes) (label : String) : Bytes :=
  (beginOp F (tFlag (Strobe.key F (Strobe.new F (Bytes.ofString label)) key) false 0x0E).1
    (tFlag (Strobe.key F (Strobe.new F (Bytes.ofString label)) key) false 0x0E).2 true).st

/-- (U, partial) on the first duplex block the ciphertext is `payload ⊕ ks(label, key)` -/
theorem C03_partial_first_block_is_xor (F : Perm) (key data : Bytes) (label : String) :
    (encrypt F key data label).take rate = xorKs (keystreamState F key label) 0 (data.take rate) :=
  sendEnc_first_block F _ data

/-- (W) **Keystream reuse.** Under one key and label, for every `F`: the XOR of two ciphertexts
equals the XOR of the two plaintext payloads on the first 166 bytes — on ALL bytes when the
payloads are at most 166 bytes long (`C03_keystream_reuse_short`). -/
theorem C03_keystream_reuse (F : Perm) (key p1 p2 : Bytes) (label : String) :
    Bytes.xor ((encrypt F key p1 label).take rate) ((encrypt F key p2 label).take rate) =
      Bytes.xor (p1.take rate) (p2.take rate) := by
  rw [C03_partial_first_block_is_xor, C03_partial_first_block_is_xor, xorKs_xor]

theorem C03_keystream_reuse_short (F : Perm) (key p1 p2 : Bytes) (label : String)
    (h1 : p1.length ≤ rate) (h2 : p2.length ≤ rate) :
    Bytes.xor (encrypt F key p1 label) (encrypt F key p2 label) = Bytes.xor p1 p2 := by
  have := C03_keystream_reuse F key p1 p2 label
  have e : ∀ p, (encrypt F key p label).length = p.length := fun p => sendEnc_length F _ _
  rwa [List.take_of_length_le ((e p1).trans_le h1), List.take_of_length_le ((e p2).trans_le h2),
    List.take_of_length_le h1, List.take_of_length_le h2] at this

/-- (W) **The violation at the level of reports**: two clients of the same measurement, epoch,
threshold and randomness with DIFFERENT associated data produce ciphertexts whose difference equals
the difference of their payloads (first block). Contradicts the third clause of C03. -/
theorem C03_reports_leak_payload_difference (F : Perm) (fuel : Nat) (m e : Bytes) (t : Nat) (rnd : Bytes)
    (aux1 aux2 : Option Bytes) (x1 x2 : Nat) (r1 r2 : Message)
    (h1 : generate F fuel m e t rnd aux1 x1 = some (.ok r1))
    (h2 : generate F fuel m e t rnd aux2 x2 = some (.ok r2)) :
    Bytes.xor (r1.ciphertext.take rate) (r2.ciphertext.take rate) =
      Bytes.xor ((payload m aux1).take rate) ((payload m aux2).take rate) := by
  obtain ⟨_, -, rfl⟩ := generate_ok_iff.mp h1
  obtain ⟨_, -, rfl⟩ := generate_ok_iff.mp h2
  exact C03_keystream_reuse F _ _ _ _

/-- (W) **Keystream reuse continues beyond the first block** as long as the payloads agree: if two
payloads share a prefix `c` of whole blocks (`c.length` a multiple of 166), the ciphertexts agree on
it and on the NEXT block their XOR is again the XOR of the plaintexts. (A long measurement is such
a common prefix: the associated data of its reports leak the same way wherever they start.) -/
theorem C03_keystream_reuse_common_prefix (F : Perm) (key c d1 d2 : Bytes) (label : String)
    (hc : c.length % rate = 0) :
    (encrypt F key (c ++ d1) label).take c.length = (encrypt F key (c ++ d2) label).take c.length ∧
    Bytes.xor (((encrypt F key (c ++ d1) label).drop c.length).take rate)
        (((encrypt F key (c ++ d2) label).drop c.length).take rate) =
      Bytes.xor (d1.take rate) (d2.take rate) := by
  obtain ⟨h1, ks, h2, h3⟩ :=
    sendEnc_common_prefix F (Strobe.key F (Strobe.new F (Bytes.ofString label)) key) c d1 d2 hc
  refine ⟨h1, ?_⟩
  unfold encrypt
  rw [h2, h3, xorKs_xor]

theorem keystream_reuse_after (F : Perm) (key p1 p2 : Bytes) (label : String) (n : Nat) (hn : n % rate = 0)
    (hle : n ≤ p1.length) (hp : p1.take n = p2.take n) :
    (encrypt F key p1 label).take n = (encrypt F key p2 label).take n ∧
    Bytes.xor (((encrypt F key p1 label).drop n).take rate) (((encrypt F key p2 label).drop n).take rate) =
      Bytes.xor ((p1.drop n).take rate) ((p2.drop n).take rate) := by
  have hcl : (p1.take n).length = n := List.length_take.trans (Nat.min_eq_left hle)
  have := C03_keystream_reuse_common_prefix F key (p1.take n) (p1.drop n) (p2.drop n) label (by rwa [hcl])
  rwa [hcl, List.take_append_drop, hp, List.take_append_drop] at this

theorem payload_common (m : Bytes) (aux1 aux2 : Option Bytes) (n : Nat) (hn : n ≤ 4 + m.length) :
    (payload m aux1).take n = (payload m aux2).take n := by
  rw [← Adss.storeBytes_length] at hn
  unfold payload
  rw [List.take_append_of_le_length hn, List.take_append_of_le_length hn]

/-- (W) at the level of reports, for every whole number of blocks `n` inside `len | measurement`:
the two ciphertexts agree up to `n` and leak the payload difference on the block that starts there -/
theorem C03_reports_leak_beyond_first_block (F : Perm) (fuel : Nat) (m e : Bytes) (t : Nat) (rnd : Bytes)
    (aux1 aux2 : Option Bytes) (x1 x2 : Nat) (r1 r2 : Message)
    (h1 : generate F fuel m e t rnd aux1 x1 = some (.ok r1))
    (h2 : generate F fuel m e t rnd aux2 x2 = some (.ok r2))
    (n : Nat) (hn : n % rate = 0) (hle : n ≤ 4 + m.length) :
    r1.ciphertext.take n = r2.ciphertext.take n ∧
    Bytes.xor ((r1.ciphertext.drop n).take rate) ((r2.ciphertext.drop n).take rate) =
      Bytes.xor (((payload m aux1).drop n).take rate) (((payload m aux2).drop n).take rate) := by
  obtain ⟨_, -, rfl⟩ := generate_ok_iff.mp h1
  obtain ⟨_, -, rfl⟩ := generate_ok_iff.mp h2
  refine keystream_reuse_after F _ _ _ _ n hn (hle.trans ?_) (payload_common m aux1 aux2 n hle)
  unfold payload
  rw [List.length_append, Adss.storeBytes_length]
  exact Nat.le_add_right _ _

/-- (U, partial) what does hold: the report carries the payload only through the encryption under
the threshold-protected key, and that key's holder recovers it exactly (C01); the report's other
parts do not depend on the associated data at all. -/
theorem C03_partial_dataflow (F : Perm) (fuel : Nat) (m e : Bytes) (t : Nat) (rnd : Bytes)
    (aux1 aux2 : Option Bytes) (x : Nat) (r1 r2 : Message)
    (h1 : generate F fuel m e t rnd aux1 x = some (.ok r1))
    (h2 : generate F fuel m e t rnd aux2 x = some (.ok r2)) :
    r1.share = r2.share ∧ r1.tag = r2.tag ∧
    decrypt F (deriveSkeKey F (deriveRandom F rnd 0) e) r1.ciphertext Params.starEncryptLabel = payload m aux1 := by
  obtain ⟨cs, hcs, rfl⟩ := generate_ok_iff.mp h1
  obtain ⟨cs', hcs', rfl⟩ := generate_ok_iff.mp h2
  cases hcs.symm.trans hcs'
  exact ⟨rfl, rfl, decrypt_encrypt F _ _ _⟩

-- the witness is not vacuous: a concrete pair (identity permutation) with different aux bytes
example : Bytes.xor (encrypt id [1] [0, 0, 0, 1, 9, 0, 0, 0, 1, 7] "x")
    (encrypt id [1] [0, 0, 0, 1, 9, 0, 0, 0, 1, 8] "x") = [0, 0, 0, 0, 0, 0, 0, 0, 0, 15] :=
  (C03_keystream_reuse_short id [1] _ _ "x" (by decide) (by decide)).trans (by decide)

-- ... and beyond the first block: a 166-byte common prefix, then differing bytes
example : Bytes.xor ((encrypt id [1] (List.replicate 166 7 ++ [9, 9]) "x").drop 166)
    ((encrypt id [1] (List.replicate 166 7 ++ [9, 8]) "x").drop 166) = [0, 1] := by
  decide +kernel

end StarModel.Props.C03
