/-
C10 — Puncturing removes exactly the punctured inputs and changes nothing else.

All statements are about `StarModel.Ggm` (the statement-by-statement model of ppoprf/src/ggm.rs;
the `ggm` correspondence stream ties it to the compiled crate), generic in the seed type, in the PRG
`g`, in the first-level seeds `s0 s1` and in the input length `inpLen ≥ 1` (tree depth `8 * inpLen`),
and hold for every history of `eval` / `puncture` calls of any length.
-/
import StarModel.Lemmas.Skeleton
import StarModel.Lemmas.Ggm

namespace StarModel.Props.C10
open StarModel.Ggm

variable {Seed : Type}

/-- the key a caller holds after the history `hist` on a fresh key -/
def keyAfter (g : Bool → Seed → Seed) (inpLen : Nat) (s0 s1 : Seed) (hist : List Op) : Key Seed :=
  (run g inpLen (initKey s0 s1) hist).1

def outsAfter (g : Bool → Seed → Seed) (inpLen : Nat) (s0 s1 : Seed) (hist : List Op) :
    List (Out Seed) :=
  (run g inpLen (initKey s0 s1) hist).2

/-- `P`: the inputs (as bit strings) of the `puncture` calls of `hist` that returned `Ok(())`, in
order -/
def puncturedAfter (g : Bool → Seed → Seed) (inpLen : Nat) (s0 s1 : Seed) (hist : List Op) :
    List Bits :=
  successes hist (outsAfter g inpLen s0 s1 hist)

theorem C10_inv_init (g : Bool → Seed → Seed) (inpLen : Nat) (hpos : 1 ≤ inpLen) (s0 s1 : Seed) :
    Inv g (8 * inpLen) s0 s1 (initKey s0 s1) [] :=
  inv_init g _ (by omega) s0 s1

/-- `Inv` is preserved by every successful `puncture`; `P` becomes `P ++ [inputBits input]` -/
theorem C10_inv_puncture {g : Bool → Seed → Seed} {inpLen : Nat} {s0 s1 : Seed} {k k' : Key Seed}
    {P : List Bits} (h : Inv g (8 * inpLen) s0 s1 k P) {input : Bytes}
    (hok : puncture g inpLen k input = .ok k') :
    Inv g (8 * inpLen) s0 s1 k' (P ++ [inputBits input]) := by
  rcases h.puncture_cases input with ⟨_, hp⟩ | ⟨_, _, hp⟩ | ⟨_, _, k'', hp, hk''⟩ <;> rw [hp] at hok <;>
    cases hok
  exact hk''

/-- any `eval` and any failing `puncture` leave the caller's key unchanged (no invariant needed) -/
theorem C10_key_unchanged (g : Bool → Seed → Seed) (inpLen : Nat) (k : Key Seed) (input : Bytes) :
    (step g inpLen k (.eval input)).1 = k ∧
    (∀ e, puncture g inpLen k input = .error e → (step g inpLen k (.puncture input)).1 = k) :=
  ⟨rfl, fun e he => by simp [step, he]⟩

/-- every reachable key satisfies the invariant with `P` = the successful punctures in order -/
theorem C10_reachable_inv (g : Bool → Seed → Seed) (inpLen : Nat) (hpos : 1 ≤ inpLen) (s0 s1 : Seed)
    (hist : List Op) :
    Inv g (8 * inpLen) s0 s1 (keyAfter g inpLen s0 s1 hist) (puncturedAfter g inpLen s0 s1 hist) ∧
    outsAfter g inpLen s0 s1 hist = (specRun g inpLen s0 s1 [] hist).2 ∧
    puncturedAfter g inpLen s0 s1 hist = (specRun g inpLen s0 s1 [] hist).1 := by
  obtain ⟨h1, h2⟩ := run_spec hist (C10_inv_init g inpLen hpos s0 s1)
  have h3 : puncturedAfter g inpLen s0 s1 hist = (specRun g inpLen s0 s1 [] hist).1 := by
    rw [specRun_successes, List.nil_append, ← h1]; rfl
  exact ⟨h3 ▸ h2, h1, h3⟩

theorem C10_keyAfter_snoc (g : Bool → Seed → Seed) (inpLen : Nat) (s0 s1 : Seed) (hist : List Op)
    (op : Op) :
    keyAfter g inpLen s0 s1 (hist ++ [op]) = (step g inpLen (keyAfter g inpLen s0 s1 hist) op).1 := by
  unfold keyAfter
  generalize initKey s0 s1 = k
  induction hist generalizing k with
  | nil => rfl
  | cons o os ih => exact ih _

/-- an input that was not punctured still evaluates, to the value it had before ANY puncturing
(the ideal value, which is also what the fresh key returns) -/
theorem C10_eval_unpunctured (g : Bool → Seed → Seed) (inpLen : Nat) (hpos : 1 ≤ inpLen)
    (s0 s1 : Seed) (hist : List Op) (input : Bytes) (hl : input.length = inpLen)
    (hx : inputBits input ∉ puncturedAfter g inpLen s0 s1 hist) :
    eval g inpLen (keyAfter g inpLen s0 s1 hist) input = .ok (ideal g s0 s1 (inputBits input)) ∧
    eval g inpLen (keyAfter g inpLen s0 s1 hist) input = eval g inpLen (initKey s0 s1) input := by
  rw [(C10_reachable_inv g inpLen hpos s0 s1 hist).1.eval_eq, (C10_inv_init g inpLen hpos s0 s1).eval_eq]
  simp [hl, hx]

/-- a punctured input does not evaluate, and puncturing it again fails and leaves the key
unchanged -/
theorem C10_eval_punctured (g : Bool → Seed → Seed) (inpLen : Nat) (hpos : 1 ≤ inpLen)
    (s0 s1 : Seed) (hist : List Op) (input : Bytes) (hl : input.length = inpLen)
    (hx : inputBits input ∈ puncturedAfter g inpLen s0 s1 hist) :
    eval g inpLen (keyAfter g inpLen s0 s1 hist) input = .error .noPrefixFound ∧
    puncture g inpLen (keyAfter g inpLen s0 s1 hist) input = .error .noPrefixFound ∧
    keyAfter g inpLen s0 s1 (hist ++ [.puncture input]) = keyAfter g inpLen s0 s1 hist := by
  have hinv := (C10_reachable_inv g inpLen hpos s0 s1 hist).1
  rcases hinv.puncture_cases input with ⟨h, _⟩ | ⟨_, _, hp⟩ | ⟨_, h, _⟩
  · exact absurd hl h
  · exact ⟨by simp [hinv.eval_eq, hl, hx], hp, by simp [C10_keyAfter_snoc, step, hp]⟩
  · exact absurd hx h

/-- puncturing a correct-length, not yet punctured input `x` succeeds, makes `P' = P ++ [x]`, and
every other input (of any length) evaluates exactly as before -/
theorem C10_puncture_adds_exactly (g : Bool → Seed → Seed) (inpLen : Nat) (hpos : 1 ≤ inpLen)
    (s0 s1 : Seed) (hist : List Op) (input : Bytes) (hl : input.length = inpLen)
    (hx : inputBits input ∉ puncturedAfter g inpLen s0 s1 hist) :
    ∃ k', puncture g inpLen (keyAfter g inpLen s0 s1 hist) input = .ok k' ∧
      keyAfter g inpLen s0 s1 (hist ++ [.puncture input]) = k' ∧
      puncturedAfter g inpLen s0 s1 (hist ++ [.puncture input]) =
        puncturedAfter g inpLen s0 s1 hist ++ [inputBits input] ∧
      k'.punctured = puncturedAfter g inpLen s0 s1 hist ++ [inputBits input] ∧
      eval g inpLen k' input = .error .noPrefixFound ∧
      ∀ y : Bytes, y ≠ input →
        eval g inpLen k' y = eval g inpLen (keyAfter g inpLen s0 s1 hist) y := by
  have hinv := (C10_reachable_inv g inpLen hpos s0 s1 hist).1
  rcases hinv.puncture_cases input with ⟨h, _⟩ | ⟨_, h, _⟩ | ⟨_, _, k', hk', hinv'⟩
  · exact absurd hl h
  · exact absurd h hx
  have hkey : keyAfter g inpLen s0 s1 (hist ++ [.puncture input]) = k' := by
    simp [C10_keyAfter_snoc, step, hk']
  -- both keys record their own punctured list
  have hP := (C10_reachable_inv g inpLen hpos s0 s1 (hist ++ [.puncture input])).1.punct
  rw [hkey, hinv'.punct] at hP
  refine ⟨k', hk', hkey, hP.symm, hinv'.punct, by simp [hinv'.eval_eq, hl], fun y hy => ?_⟩
  have hyb : inputBits y ≠ inputBits input := fun h => hy (inputBits_injective h)
  simp [hinv'.eval_eq, hinv.eval_eq, hyb]

/-- a wrong-length input is refused by `eval` and by `puncture` with `BadInputLength`, on any key,
and the key is unchanged -/
theorem C10_wrong_length (g : Bool → Seed → Seed) (inpLen : Nat) (k : Key Seed) (input : Bytes)
    (hl : input.length ≠ inpLen) :
    eval g inpLen k input = .error .badInputLength ∧
    puncture g inpLen k input = .error .badInputLength ∧
    (step g inpLen k (.eval input)).1 = k ∧ (step g inpLen k (.puncture input)).1 = k :=
  ⟨by simp [eval, hl], puncture_bad_length g inpLen k hl, rfl,
    by simp [step, puncture_bad_length g inpLen k hl]⟩

/-- `puncture` of a correct-length input succeeds iff the input was not punctured before; the
only errors `puncture` can return at a reachable state are `BadInputLength` and `NoPrefixFound`
(`AlreadyPunctured` and `UnexpectedEndOfBv` are unreachable) -/
theorem C10_puncture_succeeds_iff (g : Bool → Seed → Seed) (inpLen : Nat) (hpos : 1 ≤ inpLen)
    (s0 s1 : Seed) (hist : List Op) (input : Bytes) :
    (input.length = inpLen →
      ((∃ k', puncture g inpLen (keyAfter g inpLen s0 s1 hist) input = .ok k') ↔
        inputBits input ∉ puncturedAfter g inpLen s0 s1 hist)) ∧
    puncture g inpLen (keyAfter g inpLen s0 s1 hist) input ≠ .error .alreadyPunctured ∧
    puncture g inpLen (keyAfter g inpLen s0 s1 hist) input ≠ .error .unexpectedEndOfBv := by
  rcases (C10_reachable_inv g inpLen hpos s0 s1 hist).1.puncture_cases input with
    ⟨hl, hp⟩ | ⟨_, hx, hp⟩ | ⟨_, hx, k', hp, _⟩ <;> simp [*]

/-- at every reachable state the key satisfies the invariant with `P` = the successfully punctured
inputs in order, the answers seen so far are those of the ideal machine (which only keeps `P`), and
`eval` / `puncture` on the current key are completely determined by `P` and `ideal` -/
theorem C10_history (g : Bool → Seed → Seed) (inpLen : Nat) (hpos : 1 ≤ inpLen) (s0 s1 : Seed)
    (hist : List Op) :
    let k := keyAfter g inpLen s0 s1 hist
    let P := puncturedAfter g inpLen s0 s1 hist
    Inv g (8 * inpLen) s0 s1 k P ∧
    k.punctured = P ∧
    outsAfter g inpLen s0 s1 hist = (specRun g inpLen s0 s1 [] hist).2 ∧
    P = (specRun g inpLen s0 s1 [] hist).1 ∧
    (∀ input : Bytes,
      eval g inpLen k input =
        (if input.length ≠ inpLen then .error .badInputLength
         else if inputBits input ∈ P then .error .noPrefixFound
         else .ok (ideal g s0 s1 (inputBits input)))) ∧
    (∀ input : Bytes,
      (step g inpLen k (.puncture input)).2 = specOut g inpLen s0 s1 P (.puncture input) ∧
      (step g inpLen k (.puncture input)).1.punctured =
        (if input.length = inpLen ∧ inputBits input ∉ P then P ++ [inputBits input] else P) ∧
      (¬ (input.length = inpLen ∧ inputBits input ∉ P) → (step g inpLen k (.puncture input)).1 = k)) := by
  intro k P
  obtain ⟨hinv, houts, hP⟩ := C10_reachable_inv g inpLen hpos s0 s1 hist
  refine ⟨hinv, hinv.punct, houts, hP, hinv.eval_eq, fun input => ?_⟩
  obtain ⟨h1, h2, h3⟩ := step_spec hinv (.puncture input)
  exact ⟨h1, h2.punct, fun hn => h3 (if_neg hn)⟩

/-- reduction: two different inputs of the same length `≥ 1` with the same ideal value exhibit an
explicit collision — either the two first-level seeds coincide (`s0 = s1`, the inputs differing in
their first bit), or at some depth `i ≥ 1` two different (bit, seed) pairs on the two paths are
mapped by the PRG `g` to the same seed -/
theorem C10_distinct_values (g : Bool → Seed → Seed) (s0 s1 : Seed) (x y : Bits)
    (hlen : x.length = y.length) (hpos : 1 ≤ x.length) (hne : x ≠ y)
    (heq : ideal g s0 s1 x = ideal g s0 s1 y) :
    (s0 = s1 ∧ x.getD 0 false ≠ y.getD 0 false) ∨
    ∃ i, 1 ≤ i ∧ i < x.length ∧
      (x.getD i false, ideal g s0 s1 (x.take i)) ≠ (y.getD i false, ideal g s0 s1 (y.take i)) ∧
      g (x.getD i false) (ideal g s0 s1 (x.take i)) = g (y.getD i false) (ideal g s0 s1 (y.take i)) := by
  obtain _ | ⟨a, r⟩ := x
  · cases hpos
  obtain _ | ⟨c, r'⟩ := y
  · cases hlen
  -- `ideal` of a `cons` is a descent from the selected first-level seed; `getD`, `take` unfold
  rcases bitEval_collision g r r' _ _ (Nat.succ.inj hlen) heq with ⟨rfl, hs⟩ | ⟨i, hi, hne', hg⟩
  · have hac : a ≠ c := fun h => hne (by rw [h])
    exact .inl ⟨by cases a <;> cases c <;> simp_all, hac⟩
  · exact .inr ⟨i + 1, Nat.succ_pos i, Nat.succ_lt_succ hi, hne', hg⟩

/-- consequence for reachable states: whenever two distinct unpunctured inputs evaluate to the same
output on ANY reachable key, the collision of `C10_distinct_values` exists -/
theorem C10_distinct_outputs (g : Bool → Seed → Seed) (inpLen : Nat) (hpos : 1 ≤ inpLen)
    (s0 s1 : Seed) (hist : List Op) (a b : Bytes) (v : Seed) (hab : a ≠ b)
    (ha : eval g inpLen (keyAfter g inpLen s0 s1 hist) a = .ok v)
    (hb : eval g inpLen (keyAfter g inpLen s0 s1 hist) b = .ok v) :
    let x := inputBits a
    let y := inputBits b
    (s0 = s1 ∧ x.getD 0 false ≠ y.getD 0 false) ∨
    ∃ i, 1 ≤ i ∧ i < x.length ∧
      (x.getD i false, ideal g s0 s1 (x.take i)) ≠ (y.getD i false, ideal g s0 s1 (y.take i)) ∧
      g (x.getD i false) (ideal g s0 s1 (x.take i)) = g (y.getD i false) (ideal g s0 s1 (y.take i)) := by
  intro x y
  have key : ∀ c : Bytes, eval g inpLen (keyAfter g inpLen s0 s1 hist) c = .ok v →
      c.length = inpLen ∧ ideal g s0 s1 (inputBits c) = v := by
    intro c hc
    rw [(C10_reachable_inv g inpLen hpos s0 s1 hist).1.eval_eq] at hc
    by_cases hl : c.length = inpLen <;>
      by_cases hx : inputBits c ∈ puncturedAfter g inpLen s0 s1 hist <;> simp [hl, hx] at hc
    exact ⟨hl, hc⟩
  obtain ⟨hla, hva⟩ := key a ha
  obtain ⟨hlb, hvb⟩ := key b hb
  have hx : x.length = 8 * inpLen := by rw [inputBits_length, hla]
  have hy : y.length = 8 * inpLen := by rw [inputBits_length, hlb]
  exact C10_distinct_values g s0 s1 x y (hx.trans hy.symm) (by omega)
    (fun h => hab (inputBits_injective h)) (hva.trans hvb.symm)

/-! ### non-vacuity on a concrete instance: `Seed := Nat`, `g b s = 2 s + b`, one-byte inputs -/

def gN (b : Bool) (s : Nat) : Nat := 2 * s + (if b then 1 else 0)

def demoHist : List Op :=
  [.puncture [0], .puncture [1], .eval [2], .eval [0], .puncture [0], .eval [2, 2]]

example : puncturedAfter gN 1 2 3 demoHist = [inputBits [0], inputBits [1]] := by decide +kernel
example : (keyAfter gN 1 2 3 demoHist).punctured = [inputBits [0], inputBits [1]] := by decide +kernel
-- input 2 still evaluates to its pre-puncture value; input 0 fails; wrong length refused
example : eval gN 1 (keyAfter gN 1 2 3 demoHist) [2] = eval gN 1 (initKey 2 3) [2] := rfl
example : eval gN 1 (keyAfter gN 1 2 3 demoHist) [2] = .ok (ideal gN 2 3 (inputBits [2])) := rfl
example : eval gN 1 (keyAfter gN 1 2 3 demoHist) [2] = .ok 320 := rfl
example : eval gN 1 (keyAfter gN 1 2 3 demoHist) [0] = .error .noPrefixFound := rfl
example : eval gN 1 (keyAfter gN 1 2 3 demoHist) [1] = .error .noPrefixFound := rfl
example : puncture gN 1 (keyAfter gN 1 2 3 demoHist) [2, 2] = .error .badInputLength := by
  exact (C10_wrong_length gN 1 _ [2, 2] (by decide)).2.1
-- the hypotheses of the theorems are satisfiable: an unpunctured and a punctured input exist
example : inputBits [2] ∉ puncturedAfter gN 1 2 3 demoHist := by decide +kernel
example : inputBits [0] ∈ puncturedAfter gN 1 2 3 demoHist := by decide +kernel
-- the stored nodes after the history: both first-level nodes replaced by their 7 co-path siblings
example : (keyAfter gN 1 2 3 demoHist).prefixes.map (·.1.length) =
    [8, 7, 6, 5, 4, 3, 2, 8, 7, 6, 5, 4, 3, 2] := by decide +kernel
-- the collision alternative of `C10_distinct_values` is not vacuous either: a constant PRG collides
example : ideal (fun _ _ => (0 : Nat)) 2 3 (inputBits [0]) = ideal (fun _ _ => (0 : Nat)) 2 3 (inputBits [1]) := by
  decide +kernel

end StarModel.Props.C10
