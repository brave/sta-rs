/-
C04 — Tags and keys are a function of exactly (measurement, epoch, threshold).

(U) determinism and transcript-encoding injectivity, for every permutation `F`;
(R) "different triples give different randomness / tags / keys" reduces to an explicit `Collision`
of STROBE on two different operation lists (random-oracle assumption on STROBE over Keccak-f);
(E) share points of independent clients are pairwise distinct (OS RNG) — measured by the oracle.
-/
import StarModel.Lemmas.Skeleton
import StarModel.Lemmas.Transcript
import StarModel.Lemmas.Star

namespace StarModel.Props.C04
open StarModel.Star StarModel.Strobe

/-- (U) **Determinism.** With locally derived randomness, everything a client sends or keeps
except the share's evaluation point is a function of `(measurement, epoch, threshold)` only: one
key, one tag and one dealing `d`, whatever associated data is attached and whichever client runs. -/
theorem C04_deterministic (F : Perm) (fuel : Nat) (m e : Bytes) (t : Nat) (x0 : Nat) (k0 tag0 : Bytes)
    (sh0 : Adss.Share) (h0 : shareWithLocalRandomness F fuel m e t x0 = some (.ok (k0, sh0, tag0))) :
    ∃ d : Adss.Dealt,
      (∀ x, shareWithLocalRandomness F fuel m e t x =
        some (.ok (k0, ⟨t, Sharks.evaluate d.polys x, d.C, d.D, d.J⟩, tag0))) ∧
      (∀ x aux, ∃ ct, generate F fuel m e t (sampleLocalRandomness F m e t) aux x =
        some (.ok ⟨ct, ⟨t, Sharks.evaluate d.polys x, d.C, d.D, d.J⟩, tag0⟩)) ∧
      k0 = deriveSkeKey F (deriveRandom F (sampleLocalRandomness F m e t) 0) e ∧
      tag0 = deriveRandom F (sampleLocalRandomness F m e t) 2 := by
  obtain ⟨cs, hcs, h⟩ := swlr_ok_iff.mp h0
  cases h
  exact ⟨Adss.dealtOf F none t _ _ cs, fun x => swlr_ok_iff.mpr ⟨cs, hcs, rfl⟩,
    fun x aux => ⟨_, generate_ok_iff.mpr ⟨cs, hcs, rfl⟩⟩, rfl, rfl⟩

/-- (U) **Mutually combinable.** Shares of the one dealing `d` of a triple, from clients that hold
`t` distinct points among them, recover the locally derived `(t, r₀, r₁)`. -/
theorem C04_equal_triples_combine (F : Perm) (fuel : Nat) (m e : Bytes) (t : Nat) (ht : 1 ≤ t)
    (xs : List Nat) (hx : ∀ x ∈ xs, x < Fp.p) (hc : t ≤ xs.toFinset.card)
    (d : Adss.Dealt)
    (hd : Adss.deal F fuel none t (deriveRandom F (sampleLocalRandomness F m e t) 0)
      (deriveRandom F (sampleLocalRandomness F m e t) 1) = some (.ok d)) :
    shareRecover F (xs.map fun x => (⟨t, Sharks.evaluate d.polys x, d.C, d.D, d.J⟩ : Adss.Share)) =
      .ok ⟨t, deriveRandom F (sampleLocalRandomness F m e t) 0,
        deriveRandom F (sampleLocalRandomness F m e t) 1⟩ := by
  obtain ⟨cs, hcs, rfl⟩ := Adss.deal_ok_iff.mp hd
  exact Adss.recover_honest F ht _ _ (Adss.coeffs_spec hcs).1 xs hx hc

/-- (U) **Transcript injectivity.** The STROBE operation lists that produce the client randomness,
the three derived values (key seed, coins, tag) and the encryption key determine their inputs:
measurement, epoch and threshold are three separately framed operations. -/
theorem C04_transcript_injective :
    (∀ m e m' e' t t', t < 2 ^ 32 → t' < 2 ^ 32 → localOps m e t = localOps m' e' t' →
      m = m' ∧ e = e' ∧ t = t') ∧
    (∀ rnd rnd' i j, i < 256 → j < 256 → deriveOps rnd i = deriveOps rnd' j → rnd = rnd' ∧ i = j) ∧
    (∀ r r' e e', skeOps r e = skeOps r' e' → r = r' ∧ e = e') :=
  ⟨fun m e m' e' t t' => localOps_injective m e m' e' t t', fun r r' i j => deriveOps_injective r r' i j,
   fun r r' e e' => skeOps_injective r r' e e'⟩

/-- the labels that separate the transcripts (the three uses of `strobe_digest`, the payload
encryption, the two ADSS protocol strings) are pairwise distinct, and `derive_random_values` derives three
values (all regenerated from star/src/lib.rs and adss/src/lib.rs) -/
theorem C04_labels_distinct :
    [Params.starSampleLocalLabel, Params.starDeriveRandomsLabel, Params.starDeriveSkeKeyLabel,
      Params.starEncryptLabel, Params.adssProto, Params.adssEncryptProto].Nodup ∧
    Params.starDeriveCount = 3 := by decide +kernel

/-- (R) **Different triples ⇒ different randomness, or a STROBE collision.** -/
theorem C04_distinct_randomness (F : Perm) (m e m' e' : Bytes) (t t' : Nat) (ht : t < 2 ^ 32) (ht' : t' < 2 ^ 32)
    (hne : (m, e, t) ≠ (m', e', t'))
    (heq : sampleLocalRandomness F m e t = sampleLocalRandomness F m' e' t') :
    Collision F (localOps m e t) (localOps m' e' t') := by
  refine digest_collision F (fun h => hne ?_) heq
  obtain ⟨h1, h2, h3⟩ := localOps_injective m e m' e' t t' ht ht' h
  rw [h1, h2, h3]

/-- (R) different randomness ⇒ different key seed / coins / tag, or a collision; and the three
values derived from one randomness are pairwise separated by their index -/
theorem C04_distinct_derived (F : Perm) (rnd rnd' : Bytes) (i j : Nat) (hi : i < 3) (hj : j < 3)
    (hne : (rnd, i) ≠ (rnd', j)) (heq : deriveRandom F rnd i = deriveRandom F rnd' j) :
    Collision F (deriveOps rnd i) (deriveOps rnd' j) := by
  refine digest_collision F (fun h => hne ?_) heq
  obtain ⟨h1, h2⟩ := deriveOps_injective rnd rnd' i j (by omega) (by omega) h
  rw [h1, h2]

/-- (R) different `(r₀, epoch)` ⇒ different 32-byte pre-key, or a collision (the encryption key is
its first 16 bytes) -/
theorem C04_distinct_key (F : Perm) (r r' e e' : Bytes) (hne : (r, e) ≠ (r', e'))
    (heq : strobeDigest F r [e] Params.starDeriveSkeKeyLabel = strobeDigest F r' [e'] Params.starDeriveSkeKeyLabel) :
    Collision F (skeOps r e) (skeOps r' e') := by
  refine digest_collision F (fun h => hne ?_) heq
  obtain ⟨h1, h2⟩ := skeOps_injective r r' e e' h
  rw [h1, h2]

-- non-vacuity: a boundary-shifted pair (m‖e equal as a concatenation) has different operation lists
example : localOps [1, 2] [3] 5 ≠ localOps [1] [2, 3] 5 := fun h => by
  have := (localOps_injective _ _ _ _ _ _ (by norm_num) (by norm_num) h).1; simp at this
example : localOps [1] [] 2 ≠ localOps [1] [] 3 := fun h => by
  have := (localOps_injective _ _ _ _ _ _ (by norm_num) (by norm_num) h).2.2; omega

end StarModel.Props.C04
