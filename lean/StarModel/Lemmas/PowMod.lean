/-
Arithmetic modulo `m` on canonical natural numbers is arithmetic in `ZMod m` (the share field and the
scalar field of the model are the two instances); `Fp.powMod` is modular exponentiation; the checker of
Lucas/Pratt certificates (`lucas_of_factors`), whose modular powers the kernel evaluates on the
structurally recursive `powModFuel`. The certificates are in `Lemmas/Prime.lean` and `Lemmas/Scalar.lean`.
-/
import StarModel.Fp
import Mathlib.NumberTheory.LucasPrimality
import Mathlib.Tactic.NormNum.Prime
import Mathlib.FieldTheory.Finite.Basic

namespace StarModel.Fp

theorem powModFuel_eq (f b e m : Nat) (h : e < 2 ^ f) : powModFuel f b e m = b ^ e % m := by
  induction f generalizing b e with
  | zero => rw [Nat.lt_one_iff.1 h]; rfl
  | succ f ih =>
    rw [powModFuel]
    split
    · rename_i he; rw [he]; rfl
    · -- the recursive call computes `(b * b) ^ (e / 2) = b ^ (2 * (e / 2))`, and `e = 2 * (e / 2) + e % 2`
      rw [ih _ _ (Nat.div_lt_of_lt_mul (Nat.pow_succ' ▸ h)), ← Nat.pow_mod, ← sq, ← pow_mul]
      have he := Nat.div_add_mod e 2
      split
      · rename_i hodd
        rw [Nat.mul_mod_mod, ← pow_succ', show 2 * (e / 2) + 1 = e from hodd ▸ he]
      · rename_i hodd
        rw [Nat.mod_two_ne_one.1 hodd] at he
        rw [show 2 * (e / 2) = e from he]

theorem powMod_eq (b e m : Nat) : powMod b e m = b ^ e % m := by
  unfold powMod
  apply powModFuel_eq
  exact Nat.lt_log2_self

theorem cast_powMod {n : Nat} (a e : Nat) : ((powMod a e n : Nat) : ZMod n) = (a : ZMod n) ^ e := by
  rw [powMod_eq]; simp

section
variable {m : Nat}

theorem cast_add_mod (a b : Nat) : (((a + b) % m : Nat) : ZMod m) = a + b := by
  rw [ZMod.natCast_mod, Nat.cast_add]

theorem cast_mul_mod (a b : Nat) : (((a * b) % m : Nat) : ZMod m) = a * b := by
  rw [ZMod.natCast_mod, Nat.cast_mul]

theorem cast_sub_mod [NeZero m] (a b : Nat) : (((a + (m - b % m)) % m : Nat) : ZMod m) = a - b := by
  rw [ZMod.natCast_mod, Nat.cast_add, Nat.cast_sub (Nat.mod_lt b (NeZero.pos m)).le, ZMod.natCast_self,
    ZMod.natCast_mod, zero_sub, sub_eq_add_neg]

theorem cast_neg_mod [NeZero m] (a : Nat) : (((m - a % m) % m : Nat) : ZMod m) = -a := by
  rw [ZMod.natCast_mod, Nat.cast_sub (Nat.mod_lt a (NeZero.pos m)).le, ZMod.natCast_self,
    ZMod.natCast_mod, zero_sub]

theorem eq_of_natCast_eq {a b : Nat} (ha : a < m) (hb : b < m) (h : (a : ZMod m) = b) : a = b := by
  rw [← ZMod.val_cast_of_lt ha, h, ZMod.val_cast_of_lt hb]

theorem pow_sub_two_eq_inv [Fact m.Prime] (hm : 2 < m) (x : ZMod m) : x ^ (m - 2) = x⁻¹ := by
  by_cases h : x = 0
  · rw [h, inv_zero, zero_pow (Nat.sub_ne_zero_of_lt hm)]
  · -- `x ^ (m - 1 - 1) * x = x ^ (m - 1) = 1`
    exact eq_inv_of_mul_eq_one_left ((pow_sub_one_mul (Nat.sub_ne_zero_of_lt (Nat.lt_of_succ_lt hm)) x).trans
      (ZMod.pow_card_sub_one_eq_one h))

end

/-- the hypotheses of Lucas's test (Mathlib's `lucas_primality`, `orderOf_eq_of_pow_and_pow_div_prime`) from
modular powers that the kernel evaluates, the prime divisors of `n - 1` being read off a factorisation -/
theorem lucas_hyps (n a : Nat) (fs : List (Nat × Nat)) (hn : 1 < n)
    (hprod : (fs.map fun qe => qe.1 ^ qe.2).prod = n - 1)
    (hprime : ∀ qe ∈ fs, qe.1.Prime)
    (h1 : powMod a (n - 1) n = 1)
    (hq : ∀ qe ∈ fs, powMod a ((n - 1) / qe.1) n ≠ 1) :
    (a : ZMod n) ^ (n - 1) = 1 ∧ ∀ q : Nat, q.Prime → q ∣ n - 1 → (a : ZMod n) ^ ((n - 1) / q) ≠ 1 := by
  refine ⟨by rw [← cast_powMod, h1]; simp, fun q hqp hqd => ?_⟩
  -- a prime divisor of `n - 1` is one of the listed primes
  obtain ⟨x, hx, hdx⟩ := (Prime.dvd_prod_iff hqp.prime).mp (hprod ▸ hqd)
  obtain ⟨qe, hqe, rfl⟩ := List.mem_map.mp hx
  obtain rfl := (Nat.prime_dvd_prime_iff_eq hqp (hprime qe hqe)).mp (hqp.dvd_of_dvd_pow hdx)
  rw [← cast_powMod]
  have hlt : powMod a ((n - 1) / qe.1) n < n := by rw [powMod_eq]; exact Nat.mod_lt _ (by omega)
  exact fun hc => hq qe hqe (eq_of_natCast_eq hlt hn (hc.trans Nat.cast_one.symm))

/-- A certificate is, in this order: the witness `a`, the factorisation of `n - 1`, then the proofs of
`1 < n`, of the factorisation, of the primality of its primes (a tuple, smaller certificates inside), of
`a ^ (n - 1) = 1` and of `a ^ ((n - 1) / q) ≠ 1` for each prime `q` (as `List.Forall`, which is decided
without the instance search that `∀ qe ∈ fs, …` starts at every certificate). -/
theorem lucas_of_factors (n a : Nat) (fs : List (Nat × Nat)) (hn : 1 < n)
    (hprod : (fs.map fun qe => qe.1 ^ qe.2).prod = n - 1)
    (hprime : fs.Forall fun qe => qe.1.Prime)
    (h1 : powMod a (n - 1) n = 1)
    (hq : fs.Forall fun qe => powMod a ((n - 1) / qe.1) n ≠ 1) : n.Prime :=
  (lucas_hyps n a fs hn hprod (List.forall_iff_forall_mem.1 hprime) h1 (List.forall_iff_forall_mem.1 hq)).elim
    (lucas_primality n a)

end StarModel.Fp
