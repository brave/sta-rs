/-
The ristretto255 group order `ℓ` is prime (Pratt certificate, kernel-evaluated modular powers), and
the value-level scalar operations of the model are the field operations of `ZMod ℓ`.
-/
import StarModel.Scalar25519
import StarModel.Lemmas.PowMod

namespace StarModel.Scalar25519
open StarModel.Fp (lucas_of_factors cast_powMod cast_add_mod cast_mul_mod cast_sub_mod cast_neg_mod
  eq_of_natCast_eq pow_sub_two_eq_inv)

theorem prime_1257559732178653 : Nat.Prime 1257559732178653 :=
  lucas_of_factors _ 2 [(2, 2), (3, 1), (7, 1), (23, 1), (531581, 1), (1224481, 1)]
    (by decide +kernel) (by decide +kernel)
    ⟨by norm_num, by norm_num, by norm_num, by norm_num, by norm_num, by norm_num⟩
    (by decide +kernel) (by decide +kernel)

theorem prime_4434155615661930479 : Nat.Prime 4434155615661930479 :=
  lucas_of_factors _ 17 [(2, 1), (41, 1), (43, 1), (1257559732178653, 1)]
    (by decide +kernel) (by decide +kernel)
    ⟨by norm_num, by norm_num, by norm_num, prime_1257559732178653⟩ (by decide +kernel) (by decide +kernel)

theorem prime_292386187 : Nat.Prime 292386187 :=
  lucas_of_factors _ 2 [(2, 1), (3, 4), (307, 1), (5879, 1)] (by decide +kernel) (by decide +kernel)
    ⟨by norm_num, by norm_num, by norm_num, by norm_num⟩ (by decide +kernel) (by decide +kernel)

theorem prime_172054593956031949258510691 : Nat.Prime 172054593956031949258510691 :=
  lucas_of_factors _ 2 [(2, 1), (5, 1), (1361, 1), (2851, 1), (4434155615661930479, 1)]
    (by decide +kernel) (by decide +kernel)
    ⟨by norm_num, by norm_num, by norm_num, by norm_num, prime_4434155615661930479⟩
    (by decide +kernel) (by decide +kernel)

theorem prime_213441916511 : Nat.Prime 213441916511 :=
  lucas_of_factors _ 13 [(2, 1), (5, 1), (73, 1), (292386187, 1)] (by decide +kernel) (by decide +kernel)
    ⟨by norm_num, by norm_num, by norm_num, prime_292386187⟩ (by decide +kernel) (by decide +kernel)

theorem prime_14741173 : Nat.Prime 14741173 :=
  lucas_of_factors _ 2 [(2, 2), (3, 2), (409477, 1)] (by decide +kernel) (by decide +kernel)
    ⟨by norm_num, by norm_num, by norm_num⟩ (by decide +kernel) (by decide +kernel)

theorem prime_58964693 : Nat.Prime 58964693 :=
  lucas_of_factors _ 2 [(2, 2), (14741173, 1)] (by decide +kernel) (by decide +kernel)
    ⟨by norm_num, prime_14741173⟩ (by decide +kernel) (by decide +kernel)

theorem prime_3044861653679985063343 : Nat.Prime 3044861653679985063343 :=
  lucas_of_factors _ 5 [(2, 1), (3, 1), (11, 1), (30703, 1), (82163, 1), (132667, 1), (137849, 1)]
    (by decide +kernel) (by decide +kernel)
    ⟨by norm_num, by norm_num, by norm_num, by norm_num, by norm_num, by norm_num, by norm_num⟩
    (by decide +kernel) (by decide +kernel)

theorem prime_19757330305831588566944191468367130476339 :
    Nat.Prime 19757330305831588566944191468367130476339 :=
  lucas_of_factors _ 2 [(2, 1), (269, 1), (213441916511, 1), (172054593956031949258510691, 1)]
    (by decide +kernel) (by decide +kernel)
    ⟨by norm_num, by norm_num, prime_213441916511, prime_172054593956031949258510691⟩
    (by decide +kernel) (by decide +kernel)

theorem prime_276602624281642239937218680557139826668747 :
    Nat.Prime 276602624281642239937218680557139826668747 :=
  lucas_of_factors _ 2 [(2, 1), (7, 1), (19757330305831588566944191468367130476339, 1)]
    (by decide +kernel) (by decide +kernel)
    ⟨by norm_num, by norm_num, prime_19757330305831588566944191468367130476339⟩
    (by decide +kernel) (by decide +kernel)

theorem prime_198211423230930754013084525763697 : Nat.Prime 198211423230930754013084525763697 :=
  lucas_of_factors _ 5 [(2, 4), (3, 1), (23, 1), (58964693, 1), (3044861653679985063343, 1)]
    (by decide +kernel) (by decide +kernel)
    ⟨by norm_num, by norm_num, by norm_num, prime_58964693, prime_3044861653679985063343⟩
    (by decide +kernel) (by decide +kernel)

theorem ell_prime : Nat.Prime ell :=
  lucas_of_factors ell 2
    [(2, 2), (3, 1), (11, 1), (198211423230930754013084525763697, 1),
      (276602624281642239937218680557139826668747, 1)] (by decide +kernel) (by decide +kernel)
    ⟨by norm_num, by norm_num, by norm_num, prime_198211423230930754013084525763697,
      prime_276602624281642239937218680557139826668747⟩
    (by decide +kernel) (by decide +kernel)

instance : Fact (Nat.Prime ell) := ⟨ell_prime⟩

theorem ell_pos : 0 < ell := ell_prime.pos

abbrev S := ZMod ell

@[simp] theorem cast_ell : ((ell : Nat) : S) = 0 := ZMod.natCast_self ell

theorem add_lt (a b : Nat) : add a b < ell := Nat.mod_lt _ ell_pos
theorem sub_lt (a b : Nat) : sub a b < ell := Nat.mod_lt _ ell_pos
theorem mul_lt (a b : Nat) : mul a b < ell := Nat.mod_lt _ ell_pos

@[simp] theorem add_cast (a b : Nat) : ((add a b : Nat) : S) = (a : S) + b := cast_add_mod a b
@[simp] theorem mul_cast (a b : Nat) : ((mul a b : Nat) : S) = (a : S) * b := cast_mul_mod a b
@[simp] theorem sub_cast (a b : Nat) : ((sub a b : Nat) : S) = (a : S) - b := cast_sub_mod a b
@[simp] theorem neg_cast (a : Nat) : ((neg a : Nat) : S) = -(a : S) := cast_neg_mod a
@[simp] theorem pow_cast (a e : Nat) : ((pow a e : Nat) : S) = (a : S) ^ e := cast_powMod a e

/-- `Scalar::invert` gives `0` at `0`, as does `⁻¹` -/
@[simp] theorem invert_cast (a : Nat) : ((invert a : Nat) : S) = (a : S)⁻¹ := by
  rw [invert, pow_cast, pow_sub_two_eq_inv (by decide +kernel)]

theorem eq_of_cast_eq {a b : Nat} (ha : a < ell) (hb : b < ell) (h : (a : S) = b) : a = b :=
  eq_of_natCast_eq ha hb h

end StarModel.Scalar25519
