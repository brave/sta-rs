/-
The value-level field operations of the model are the operations of `ZMod p`, `invert` and `sqrt`
included; `p` is odd and `≡ 3 (mod 4)`; the values of the constants `numBits`, `twoAdicity`, `tOdd` and
`rootOfUnity`.
-/
import StarModel.Lemmas.Prime

namespace StarModel.Fp

theorem p_pos : 0 < p := modulus_prime.pos
theorem p_gt_one : 1 < p := modulus_prime.one_lt

theorem add_lt (a b : Nat) : add a b < p := Nat.mod_lt _ p_pos
theorem sub_lt (a b : Nat) : sub a b < p := Nat.mod_lt _ p_pos
theorem neg_lt (a : Nat) : neg a < p := Nat.mod_lt _ p_pos
theorem double_lt (a : Nat) : double a < p := Nat.mod_lt _ p_pos
theorem mul_lt (a b : Nat) : mul a b < p := Nat.mod_lt _ p_pos
theorem square_lt (a : Nat) : square a < p := Nat.mod_lt _ p_pos
theorem pow_lt (a e : Nat) : pow a e < p := by unfold pow; rw [powMod_eq]; exact Nat.mod_lt _ p_pos

@[simp] theorem cast_p : ((p : Nat) : ZMod p) = 0 := ZMod.natCast_self p

@[simp] theorem add_cast (a b : Nat) : ((add a b : Nat) : ZMod p) = (a : ZMod p) + b := cast_add_mod a b
@[simp] theorem sub_cast (a b : Nat) : ((sub a b : Nat) : ZMod p) = (a : ZMod p) - b := cast_sub_mod a b
@[simp] theorem neg_cast (a : Nat) : ((neg a : Nat) : ZMod p) = -(a : ZMod p) := cast_neg_mod a
@[simp] theorem mul_cast (a b : Nat) : ((mul a b : Nat) : ZMod p) = (a : ZMod p) * b := cast_mul_mod a b
@[simp] theorem pow_cast (a e : Nat) : ((pow a e : Nat) : ZMod p) = (a : ZMod p) ^ e := cast_powMod a e

@[simp] theorem double_cast (a : Nat) : ((double a : Nat) : ZMod p) = 2 * (a : ZMod p) := by
  rw [double, cast_add_mod, two_mul]

@[simp] theorem square_cast (a : Nat) : ((square a : Nat) : ZMod p) = (a : ZMod p) ^ 2 := by
  rw [square, cast_mul_mod, sq]

theorem cast_foldl_add {α : Type} (g : α → Nat) (l : List α) (acc : Nat) :
    ((l.foldl (fun acc a => add acc (g a)) acc : Nat) : ZMod p) =
      (acc : ZMod p) + (l.map fun a => (g a : ZMod p)).sum := by
  induction l generalizing acc with
  | nil => simp
  | cons a l ih => rw [List.foldl_cons, ih, add_cast, List.map_cons, List.sum_cons, add_assoc]

theorem cast_foldl_mul {α : Type} (g : α → Nat) (l : List α) (acc : Nat) :
    ((l.foldl (fun acc a => mul acc (g a)) acc : Nat) : ZMod p) =
      (acc : ZMod p) * (l.map fun a => (g a : ZMod p)).prod := by
  induction l generalizing acc with
  | nil => simp
  | cons a l ih => rw [List.foldl_cons, ih, mul_cast, List.map_cons, List.prod_cons, mul_assoc]

theorem cast_eq_zero_iff (a : Nat) : (a : ZMod p) = 0 ↔ a % p = 0 := by
  rw [ZMod.natCast_eq_zero_iff]; exact Nat.dvd_iff_mod_eq_zero

theorem invert_none_iff (a : Nat) : invert a = none ↔ (a : ZMod p) = 0 := by
  unfold invert; rw [cast_eq_zero_iff]; split <;> simp_all

theorem invert_some (a : Nat) (h : (a : ZMod p) ≠ 0) :
    ∃ r, invert a = some r ∧ r < p ∧ (r : ZMod p) = (a : ZMod p)⁻¹ := by
  have hne : a % p ≠ 0 := fun hc => h ((cast_eq_zero_iff a).mpr hc)
  exact ⟨pow a (p - 2), by simp [invert, hne], pow_lt _ _,
    by rw [pow_cast, pow_sub_two_eq_inv (by decide +kernel)]⟩

theorem invert_getD_cast (a : Nat) : (((invert a).getD 0 : Nat) : ZMod p) = (a : ZMod p)⁻¹ := by
  by_cases h : (a : ZMod p) = 0
  · rw [(invert_none_iff a).mpr h, h]; simp
  · obtain ⟨r, hr, _, hc⟩ := invert_some a h
    rw [hr]; simpa using hc

theorem p_mod_four : p % 4 = 3 := by decide +kernel

theorem numBits_eq : numBits = 129 := by
  unfold numBits
  have : Fp.p.log2 = 128 := by
    rw [Nat.log2_eq_log_two]
    exact (Nat.log_eq_iff (by norm_num)).mpr ⟨by decide +kernel, by decide +kernel⟩
  rw [this]

theorem ringChar_ne_two : ringChar (ZMod p) ≠ 2 := by
  rw [ZMod.ringChar_zmod_n]; have := p_mod_four; omega

theorem neg_one_ne_one : (-1 : ZMod p) ≠ 1 := Ring.neg_one_ne_one_of_char_ne_two ringChar_ne_two

theorem twoAdicity_eq : twoAdicity = 1 := by decide +kernel

/-- `p - 1 = 2 · tOdd`; through `twoAdicity_eq`, so that the loop of `twoAdicity` is evaluated only there -/
theorem tOdd_eq : tOdd = p / 2 := by rw [tOdd, twoAdicity_eq]; decide +kernel

/-- the 2-adic root of unity is `-1` -/
theorem rootOfUnity_cast : ((rootOfUnity : Nat) : ZMod p) = -1 := by
  rw [show rootOfUnity = p - 1 by rw [rootOfUnity, tOdd_eq]; decide +kernel, Nat.cast_sub p_gt_one.le]; simp

theorem sqrt_sound (a r : Nat) (h : sqrt a = some r) : r < p ∧ (r : ZMod p) ^ 2 = (a : ZMod p) := by
  unfold sqrt at h
  simp only at h
  split at h
  · rename_i hsq
    injection h with h; subst h
    refine ⟨pow_lt _ _, ?_⟩
    have := congrArg (Nat.cast (R := ZMod p)) hsq
    rw [square_cast, ZMod.natCast_mod] at this
    exact this
  · simp at h

theorem sqrt_complete (a : Nat) (h : IsSquare (a : ZMod p)) : (sqrt a).isSome := by
  obtain ⟨b, hb⟩ := h
  -- `(a ^ ((p + 1) / 4)) ^ 2 = b ^ (p + 1) = b * b = a` by Fermat, as `4 ∣ p + 1`
  have hkey : (square (pow a ((p + 1) / 4)) : Nat) = a % p := by
    apply eq_of_natCast_eq (square_lt _) (Nat.mod_lt _ p_pos)
    rw [square_cast, pow_cast, ZMod.natCast_mod, hb, ← sq, ← pow_mul, ← pow_mul,
      show 2 * ((p + 1) / 4 * 2) = p + 1 by decide +kernel, pow_succ, ZMod.pow_card, sq]
  rw [sqrt, if_pos hkey]
  rfl

end StarModel.Fp
