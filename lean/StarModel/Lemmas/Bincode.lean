/-
The bincode layer of `StarModel.Codec`: the byte readers (what each accepts, and that it reads back
what the writer wrote), `BTreeMap` insertion, the layout of public keys, proofs and the key state.
Core Lean only.
-/
import StarModel.Codec
import StarModel.Lemmas.Bytes

namespace StarModel.Codec

/-! ### byte readers

Every reader of the bincode layer has the type `Bytes → Option (α × Bytes)`: a value and the unread
rest. What is proved about them has one of two shapes: `rd (enc v ++ rest) = some (v, rest)` (the
reader inverts the writer; enough for the round trips), and the equivalence `Exact` below (the
reader accepts nothing else; needed for "accept ⇔ well-formed"). -/

/-- `rd` accepts exactly the inputs `enc v ++ rest` with `Good v`, and returns `v` and `rest` -/
def Exact {α : Type} (rd : Bytes → Option (α × Bytes)) (enc : α → Bytes) (Good : α → Prop) : Prop :=
  ∀ bs v rest, rd bs = some (v, rest) ↔ Good v ∧ bs = enc v ++ rest

theorem Exact.reads {α : Type} {rd : Bytes → Option (α × Bytes)} {enc : α → Bytes} {Good : α → Prop}
    (h : Exact rd enc Good) {v : α} (hv : Good v) (rest : Bytes) : rd (enc v ++ rest) = some (v, rest) :=
  (h _ _ _).mpr ⟨hv, rfl⟩

theorem rdBytes_exact (n : Nat) : Exact (rdBytes n) (fun x => x) (·.length = n) := by
  intro bs x rest
  rw [rdBytes]
  constructor
  · split
    · nofun
    · intro h; cases h
      exact ⟨by simp; omega, (List.take_append_drop n bs).symm⟩
  · rintro ⟨hl, rfl⟩
    rw [if_neg (by simp [List.length_append]; omega), List.take_left' hl, List.drop_left' hl]

theorem rdBytes_append (x rest : Bytes) (n : Nat) (h : x.length = n) :
    rdBytes n (x ++ rest) = some (x, rest) :=
  (rdBytes_exact n).reads h rest

theorem rdU64_exact : Exact rdU64 Bytes.le64 (· < 2 ^ 64) := by
  intro bs n rest
  constructor
  · fun_cases rdU64 bs with
    | case1 =>
      next x _ hx =>
      obtain ⟨hl, rfl⟩ := (rdBytes_exact 8 _ _ _).mp hx
      have hlt : Bytes.toNatLE x < 256 ^ 8 := hl ▸ Bytes.toNatLE_lt x
      intro h; cases h
      exact ⟨hlt, by rw [Bytes.le64, (Bytes.ofNatLE_eq_iff hlt x).mpr ⟨hl, rfl⟩]⟩
    | case2 => nofun
  · rintro ⟨hn, rfl⟩
    rw [rdU64, Bytes.le64, rdBytes_append _ _ 8 (Bytes.ofNatLE_length 8 n)]
    simp only [((Bytes.ofNatLE_eq_iff (n := 8) hn _).mp rfl).2]

theorem rdU64_le64 (n : Nat) (h : n < 2 ^ 64) (rest : Bytes) :
    rdU64 (Bytes.le64 n ++ rest) = some (n, rest) :=
  rdU64_exact.reads h rest

theorem rdSeq_flatMap {α : Type} (item : Bytes → Option (α × Bytes)) (enc : α → Bytes) (l : List α)
    (h : ∀ a ∈ l, ∀ rest, item (enc a ++ rest) = some (a, rest)) (rest : Bytes) :
    rdSeq item l.length (l.flatMap enc ++ rest) = some (l, rest) := by
  induction l with
  | nil => rfl
  | cons a l ih =>
    simp only [List.length_cons, List.flatMap_cons, List.append_assoc, rdSeq, h a (by simp),
      ih (fun b hb => h b (by simp [hb]))]

theorem rdSeq_exact {α : Type} {item : Bytes → Option (α × Bytes)} {enc : α → Bytes} {Good : α → Prop}
    (h : Exact item enc Good) (n : Nat) :
    Exact (rdSeq item n) (·.flatMap enc) fun l => l.length = n ∧ ∀ a ∈ l, Good a := by
  intro bs l rest
  refine ⟨?_, fun ⟨⟨hl, hg⟩, e⟩ =>
    hl ▸ e ▸ rdSeq_flatMap item enc l (fun a ha => h.reads (hg a ha)) rest⟩
  fun_induction rdSeq item n bs generalizing l rest with
  | case1 => rintro ⟨⟩; simp
  | case2 =>
    next ha _ _ hl' ih =>
    obtain ⟨ga, rfl⟩ := (h _ _ _).mp ha
    obtain ⟨⟨gl, gl'⟩, rfl⟩ := ih _ _ hl'
    intro e; cases e
    simpa [gl, ga] using gl'
  | _ => nofun

/-! ### `BTreeMap` insertion -/

/-- the order in which a `BTreeMap<u8, _>` holds, iterates and serialises its entries -/
def StrictTags (es : List (UInt8 × Bytes)) : Prop := es.Pairwise fun a b => a.1 < b.1

theorem mdInsert_mem (md : UInt8) (pt : Bytes) (acc : List (UInt8 × Bytes)) :
    ∀ x ∈ Ppoprf.mdInsert md pt acc, x = (md, pt) ∨ x ∈ acc := by
  intro x
  fun_induction Ppoprf.mdInsert md pt acc <;> grind

theorem mem_keys_mdInsert (md k : UInt8) (pt : Bytes) (acc : List (UInt8 × Bytes)) :
    k ∈ (Ppoprf.mdInsert md pt acc).map Prod.fst ↔ k = md ∨ k ∈ acc.map Prod.fst := by
  fun_induction Ppoprf.mdInsert md pt acc <;> grind

/-- the keys of a map built by insertions are the keys inserted -/
theorem mem_keys_foldl_mdInsert (k : UInt8) (es acc : List (UInt8 × Bytes)) :
    k ∈ (es.foldl (fun acc e => Ppoprf.mdInsert e.1 e.2 acc) acc).map Prod.fst ↔
      k ∈ es.map Prod.fst ∨ k ∈ acc.map Prod.fst := by
  induction es generalizing acc with
  | nil => simp
  | cons e es ih =>
    rw [List.foldl_cons, ih, mem_keys_mdInsert, List.map_cons, List.mem_cons]
    exact or_left_comm.trans or_assoc.symm

theorem mdInsert_strict (md : UInt8) (pt : Bytes) (acc : List (UInt8 × Bytes)) (h : StrictTags acc) :
    StrictTags (Ppoprf.mdInsert md pt acc) := by
  unfold StrictTags at *
  fun_induction Ppoprf.mdInsert md pt acc with
  | case1 => simp
  | case2 k v rest hlt =>
    have := List.pairwise_cons.mp h
    exact List.pairwise_cons.mpr ⟨by grind, h⟩
  | case3 v rest h1 =>
    have := List.pairwise_cons.mp h
    exact List.pairwise_cons.mpr this
  | case4 k v rest h1 h2 ih =>
    have := List.pairwise_cons.mp h
    refine List.pairwise_cons.mpr ⟨fun x hx => ?_, ih this.2⟩
    rcases mdInsert_mem _ _ _ x hx with rfl | hx
    · grind
    · exact this.1 x hx

theorem mdInsert_append (md : UInt8) (pt : Bytes) (acc : List (UInt8 × Bytes))
    (h : ∀ e ∈ acc, e.1 < md) :
    Ppoprf.mdInsert md pt acc = acc ++ [(md, pt)] := by
  induction acc with
  | nil => rfl
  | cons e acc ih =>
    have hk : e.1 < md := h e (by simp)
    rw [Ppoprf.mdInsert, if_neg (by grind), if_neg (by grind), ih (fun e he => h e (by simp [he]))]
    rfl

theorem foldl_insert_sorted (es acc : List (UInt8 × Bytes)) (h : StrictTags (acc ++ es)) :
    es.foldl (fun acc e => Ppoprf.mdInsert e.1 e.2 acc) acc = acc ++ es := by
  induction es generalizing acc with
  | nil => simp
  | cons e es ih =>
    have hlt : ∀ x ∈ acc, x.1 < e.1 := fun x hx => (List.pairwise_append.mp h).2.2 x hx e (by simp)
    have : acc ++ [(e.1, e.2)] ++ es = acc ++ e :: es := by simp
    rw [List.foldl_cons, mdInsert_append _ _ _ hlt, ih _ (this ▸ h), this]

theorem insertAll_sorted (es : List (UInt8 × Bytes)) (h : StrictTags es) : insertAll es = es :=
  foldl_insert_sorted es [] h

theorem insertAll_mem (es : List (UInt8 × Bytes)) (P : Bytes → Prop) (hes : ∀ e ∈ es, P e.2) :
    ∀ e ∈ insertAll es, P e.2 := by
  refine List.foldlRecOn (motive := fun l : List (UInt8 × Bytes) => ∀ e ∈ l, P e.2) es _ (by simp)
    fun acc hacc e he x hx => ?_
  rcases mdInsert_mem _ _ _ x hx with rfl | h
  · exact hes e he
  · exact hacc x h

theorem insertAll_strict (es : List (UInt8 × Bytes)) : StrictTags (insertAll es) :=
  List.foldlRecOn es _ List.Pairwise.nil fun acc hacc _ _ => mdInsert_strict _ _ acc hacc

theorem strictTags_length (es : List (UInt8 × Bytes)) (h : StrictTags es) : es.length ≤ 256 := by
  -- the tags are distinct numbers below 256
  have hn : (es.map fun e => e.1.toNat).Nodup :=
    List.pairwise_map.mpr (h.imp fun hab => Nat.ne_of_lt (UInt8.lt_iff_toNat_lt.mp hab))
  simpa using hn.length_le_of_subset (l₂ := List.range 256) fun x hx => by
    obtain ⟨e, _, rfl⟩ := List.mem_map.mp hx
    exact List.mem_range.mpr e.1.toNat_lt

/-! ### `ServerPublicKey`

The model has two decoders of one format: `pkDecode` / `pkEntries` (standalone, by `take` / `drop`) and
`rdPk` / `rdSeq rdPkEntry` (inside the key state, with the rest). They are shown equal, and the
format is characterised once, for `rdPk`. -/

def entriesBytes (es : List (UInt8 × Bytes)) : Bytes := es.flatMap fun e => e.1 :: e.2

/-- the byte layout of an encoded key: base point, `u64` count, entries -/
def pkLayout (base : Bytes) (es : List (UInt8 × Bytes)) : Bytes :=
  base ++ Bytes.le64 es.length ++ entriesBytes es

theorem entriesBytes_length (es : List (UInt8 × Bytes)) (h : ∀ e ∈ es, e.2.length = 32) :
    (entriesBytes es).length = 33 * es.length :=
  List.length_flatMap_of_length fun e he => congrArg (· + 1) (h e he)

theorem pkLayout_length (base : Bytes) (es : List (UInt8 × Bytes)) (hb : base.length = 32)
    (hes : ∀ e ∈ es, e.2.length = 32) : (pkLayout base es).length = 40 + 33 * es.length := by
  simp [pkLayout, List.length_append, hb, Bytes.le64, entriesBytes_length es hes]; omega

theorem rdU8_exact : Exact rdU8 (fun b => [b]) fun _ => True := by
  intro bs b rest
  cases bs <;> simp [rdU8]

theorem rdPkEntry_exact : Exact rdPkEntry (fun e => e.1 :: e.2) (·.2.length = 32) := by
  intro bs e rest
  constructor
  · fun_cases rdPkEntry bs with
    | case1 =>
      next h8 _ _ hb =>
      obtain ⟨_, rfl⟩ := (rdU8_exact _ _ _).mp h8
      obtain ⟨hl, rfl⟩ := (rdBytes_exact _ _ _ _).mp hb
      intro h; cases h
      exact ⟨hl, rfl⟩
    | _ => nofun
  · rintro ⟨hl, rfl⟩
    simp only [rdPkEntry, List.cons_append, rdU8, rdBytes_append e.2 rest Params.compressedPointLen hl]

theorem pkEntries_eq_rdSeq (n : Nat) (bs : Bytes) : pkEntries n bs = (rdSeq rdPkEntry n bs).map (·.1) := by
  induction n generalizing bs with
  | zero => rfl
  | succ n ih =>
    cases bs with
    | nil => rfl
    | cons b t =>
      simp only [pkEntries, rdSeq, rdPkEntry, rdU8, rdBytes, ih]
      split
      · rfl
      · simp only []
        cases rdSeq rdPkEntry n (List.drop Params.compressedPointLen t) <;> rfl

theorem pkDecode_eq_rdPk (bs : Bytes) : pkDecode bs = (rdPk bs).map (·.1) := by
  have hcl : Params.compressedPointLen = 32 := rfl
  simp only [pkDecode, rdPk, rdU64, rdBytes, hcl, pkEntries_eq_rdSeq]
  by_cases h1 : bs.length < 32
  · rw [if_pos (by omega), if_pos h1]; rfl
  · by_cases h2 : bs.length < 32 + 8
    · simp only [if_pos h2, if_neg h1, List.length_drop, if_pos (show bs.length - 32 < 8 by omega)]; rfl
    · simp only [if_neg h2, if_neg h1, List.length_drop, if_neg (show ¬ bs.length - 32 < 8 by omega),
        List.drop_drop]
      cases rdSeq rdPkEntry (Bytes.toNatLE (List.take 8 (List.drop 32 bs))) (List.drop (32 + 8) bs) <;> rfl

/-- the entries need not be sorted: they are inserted one by one -/
theorem rdPk_iff (bs : Bytes) (pk : Ppoprf.PublicKey) (rest : Bytes) :
    rdPk bs = some (pk, rest) ↔
      ∃ es, bs = pkLayout pk.basePk es ++ rest ∧ pk.basePk.length = 32 ∧ (∀ e ∈ es, e.2.length = 32) ∧
        es.length < 2 ^ 64 ∧ pk.mdPks = insertAll es := by
  constructor
  · fun_cases rdPk bs with
    | case3 =>  -- base point, count and entries all read
      next hbase _ _ hcount es _ hentries =>
      obtain ⟨hb, rfl⟩ := (rdBytes_exact _ _ _ _).mp hbase
      obtain ⟨hn, rfl⟩ := (rdU64_exact _ _ _).mp hcount
      obtain ⟨⟨rfl, hes⟩, rfl⟩ := (rdSeq_exact rdPkEntry_exact _ _ _ _).mp hentries
      intro e; cases e
      exact ⟨es, by simp [pkLayout, entriesBytes], hb, hes, hn, rfl⟩
    | _ => nofun
  · rintro ⟨es, rfl, hb, hes, hn, hm⟩
    obtain ⟨base, m⟩ := pk
    subst hm
    simp only [rdPk, pkLayout, entriesBytes, List.append_assoc,
      rdBytes_append base _ Params.compressedPointLen hb, rdU64_le64 _ hn,
      (rdSeq_exact rdPkEntry_exact _).reads ⟨rfl, hes⟩]

theorem pkDecode_iff (bs : Bytes) (pk : Ppoprf.PublicKey) :
    pkDecode bs = some pk ↔
      ∃ es rest, bs = pkLayout pk.basePk es ++ rest ∧ pk.basePk.length = 32 ∧
        (∀ e ∈ es, e.2.length = 32) ∧ es.length < 2 ^ 64 ∧ pk.mdPks = insertAll es := by
  rw [pkDecode_eq_rdPk, Option.map_eq_some_iff]
  constructor
  · rintro ⟨⟨_, rest⟩, h, rfl⟩
    exact ((rdPk_iff _ _ _).mp h).imp fun es h => ⟨rest, h⟩
  · rintro ⟨es, rest, h⟩
    exact ⟨(pk, rest), (rdPk_iff _ _ _).mpr ⟨es, h⟩, rfl⟩

theorem pkDecode_layout (base : Bytes) (es : List (UInt8 × Bytes)) (rest : Bytes) (hb : base.length = 32)
    (hes : ∀ e ∈ es, e.2.length = 32) (hn : es.length < 2 ^ 64) :
    pkDecode (pkLayout base es ++ rest) = some ⟨base, insertAll es⟩ :=
  (pkDecode_iff _ _).mpr ⟨es, rest, rfl, hb, hes, hn, rfl⟩

theorem pkDecode_some (bs : Bytes) (v : Ppoprf.PublicKey) (h : pkDecode bs = some v) :
    ∃ es rest, bs = pkLayout v.basePk es ++ rest ∧ v.basePk.length = 32 ∧ (∀ e ∈ es, e.2.length = 32) ∧
      es.length < 2 ^ 64 ∧ v.mdPks = insertAll es :=
  (pkDecode_iff _ _).mp h

theorem rdPk_emit (pk : Ppoprf.PublicKey) (h1 : pk.basePk.length = 32) (h2 : StrictTags pk.mdPks)
    (h3 : ∀ e ∈ pk.mdPks, e.2.length = 32) (rest : Bytes) :
    rdPk (pk.toBincode ++ rest) = some (pk, rest) :=
  (rdPk_iff _ _ _).mpr ⟨pk.mdPks, rfl, h1, h3, by have := strictTags_length _ h2; omega,
    (insertAll_sorted _ h2).symm⟩

theorem pkFromBincode_ok_iff (bs : Bytes) (v : Ppoprf.PublicKey) :
    pkFromBincode bs = .ok v ↔ bs.length ≤ Params.maxSerializedPkSize ∧ pkDecode bs = some v := by
  unfold pkFromBincode
  split
  · simp; omega
  · cases pkDecode bs <;> simp <;> omega

/-! ### scalars and `ProofDLEQ` -/

theorem ell_lt : Scalar25519.ell < 256 ^ 32 := by decide +kernel

theorem toBytes_length (c : Nat) : (Scalar25519.toBytes c).length = 32 := by
  simp [Scalar25519.toBytes]

theorem fromCanonicalBytes_iff (bs : Bytes) (v : Nat) :
    Scalar25519.fromCanonicalBytes bs = some v ↔ v < Scalar25519.ell ∧ Scalar25519.toBytes v = bs :=
  Bytes.canonLE_iff (Nat.le_of_lt ell_lt)

theorem fromCanonicalBytes_toBytes (c : Nat) (h : c < Scalar25519.ell) :
    Scalar25519.fromCanonicalBytes (Scalar25519.toBytes c) = some c :=
  (fromCanonicalBytes_iff _ _).mpr ⟨h, rfl⟩

theorem fromCanonicalBytes_some (bs : Bytes) (v : Nat) (h : Scalar25519.fromCanonicalBytes bs = some v) :
    bs.length = 32 ∧ v < Scalar25519.ell ∧ v = Bytes.toNatLE bs ∧ Scalar25519.toBytes v = bs :=
  have h1 := Bytes.canonLE_eq_some_iff.mp h
  have h2 := (fromCanonicalBytes_iff bs v).mp h
  ⟨h1.1, h2.1, h1.2.2.symm, h2.2⟩

theorem toNatLE_toBytes {v : Nat} (hv : v < Scalar25519.ell) : Bytes.toNatLE (Scalar25519.toBytes v) = v :=
  (Bytes.canonLE_eq_some_iff.mp (fromCanonicalBytes_toBytes v hv)).2.2

theorem proofToBincode_length (c s : Nat) : (Ppoprf.proofToBincode c s).length = 64 := by
  simp [Ppoprf.proofToBincode, toBytes_length]

theorem proofDecode_iff (bs : Bytes) (c s : Nat) :
    proofDecode bs = some (c, s) ↔
      c < Scalar25519.ell ∧ s < Scalar25519.ell ∧ ∃ rest, bs = Ppoprf.proofToBincode c s ++ rest := by
  constructor
  · fun_cases proofDecode bs with
    | case2 =>  -- at least 64 bytes, both scalars canonical
      next hsnd hfst =>
      obtain ⟨hc, ec⟩ := (fromCanonicalBytes_iff _ _).mp hfst
      obtain ⟨hs, es⟩ := (fromCanonicalBytes_iff _ _).mp hsnd
      intro h; cases h
      refine ⟨hc, hs, (bs.drop 32).drop 32, ?_⟩
      rw [Ppoprf.proofToBincode, ec, es, List.append_assoc, List.take_append_drop, List.take_append_drop]
    | _ => nofun
  · rintro ⟨hc, hs, rest, rfl⟩
    rw [proofDecode, if_neg (by rw [List.length_append, proofToBincode_length]; omega),
      Ppoprf.proofToBincode, List.append_assoc, List.take_left' (toBytes_length c),
      List.drop_left' (toBytes_length c), List.take_left' (toBytes_length s),
      fromCanonicalBytes_toBytes c hc, fromCanonicalBytes_toBytes s hs]

theorem proofDecode_encode (c s : Nat) (hc : c < Scalar25519.ell) (hs : s < Scalar25519.ell) (rest : Bytes) :
    proofDecode (Ppoprf.proofToBincode c s ++ rest) = some (c, s) :=
  (proofDecode_iff _ _ _).mpr ⟨hc, hs, rest, rfl⟩

theorem proofDecode_some (bs : Bytes) (c s : Nat) (h : proofDecode bs = some (c, s)) :
    64 ≤ bs.length ∧ c < Scalar25519.ell ∧ s < Scalar25519.ell ∧ bs.take 64 = Ppoprf.proofToBincode c s ∧
      c = Bytes.toNatLE (bs.take 32) ∧ s = Bytes.toNatLE ((bs.drop 32).take 32) := by
  obtain ⟨hc, hs, rest, rfl⟩ := (proofDecode_iff _ _ _).mp h
  refine ⟨by simp [proofToBincode_length], hc, hs, List.take_left' (proofToBincode_length c s), ?_, ?_⟩
  · rw [Ppoprf.proofToBincode, List.append_assoc, List.take_left' (toBytes_length c), toNatLE_toBytes hc]
  · rw [Ppoprf.proofToBincode, List.append_assoc, List.drop_left' (toBytes_length c),
      List.take_left' (toBytes_length s), toNatLE_toBytes hs]

theorem proofFromBincodeFull_ok_iff (bs : Bytes) (p : Nat × Nat) :
    proofFromBincodeFull bs = .ok p ↔
      bs.length ≤ Params.maxSerializedProofSize ∧ proofDecode bs = some p := by
  unfold proofFromBincodeFull
  split
  · simp; omega
  · cases proofDecode bs <;> simp <;> omega

/-! ### the key state -/

theorem bitsVal_eq (bits : Ggm.Bits) : bitsVal bits = (BitVec.ofBoolListLE bits).toNat := by
  induction bits with
  | nil => rfl
  | cons b bs ih => rw [bitsVal, BitVec.ofBoolListLE, BitVec.toNat_concat, ih]; cases b <;> simp +arith

theorem bitsVal_lt (bits : Ggm.Bits) : bitsVal bits < 2 ^ bits.length :=
  bitsVal_eq bits ▸ BitVec.isLt _

theorem testBit_bitsVal (bits : Ggm.Bits) (j : Nat) (hj : j < bits.length) :
    (bitsVal bits).testBit j = bits[j] := by
  rw [bitsVal_eq, BitVec.testBit_toNat, BitVec.getLsbD_ofBoolListLE, List.getD_eq_getElem?_getD,
    List.getElem?_eq_getElem hj]; rfl

/-- `0 + j` is the `idx.toNat + j` of `rdBitVec` at head index 0, so that `rdBitVec_emit` applies this as it
stands -/
theorem wordsBit_bitsVal (bits : Ggm.Bits) (h : bits.length ≤ 64) :
    ((List.range bits.length).map fun j => wordsBit [bitsVal bits] (0 + j)) = bits := by
  refine List.ext_getElem (by simp) fun j h1 _ => ?_
  have hj : j < bits.length := by simpa using h1
  have h64 : j < 64 := by omega
  simp only [List.getElem_map, List.getElem_range, Nat.zero_add, wordsBit, Nat.div_eq_of_lt h64,
    Nat.mod_eq_of_lt h64, List.getD_cons_zero, ← Nat.testBit_eq_decide_div_mod_eq,
    testBit_bitsVal bits j hj]

theorem bitsWords_short (bits : Ggm.Bits) (h : bits.length ≤ 64) :
    bitsWords bits.length bits = if bits = [] then [] else [bitsVal bits] := by
  cases bits with
  | nil => rfl
  | cons b bs =>
    have h1 : (b :: bs).take 64 = b :: bs := List.take_of_length_le h
    have h2 : (b :: bs).drop 64 = [] := List.drop_of_length_le h
    simp only [List.length_cons, bitsWords, h1, h2]
    cases bs <;> simp [bitsWords]

theorem rdBitVec_emit (bits : Ggm.Bits) (h : bits.length ≤ 64) (rest : Bytes) :
    rdBitVec (bitvecToBincode bits ++ rest) = some (bits, rest) := by
  have hon : orderName.length < 2 ^ 64 := by
    unfold orderName
    rw [List.length_map, String.toList_ofList]
    decide
  simp only [bitvecToBincode, rdBitVec, bitsWords_short bits h, List.append_assoc, rdU64_le64 _ hon,
    rdBytes_append orderName _ _ rfl, ne_eq, not_true_eq_false, if_false, List.cons_append, List.nil_append]
  rw [if_neg (by decide), rdU64_le64 _ (show bits.length < 2 ^ 64 by omega)]
  -- no buffer element for the empty vector, one otherwise
  by_cases he : bits = []
  · subst he
    simp only [if_true, List.length_nil, List.flatMap_nil, List.nil_append, rdU64_le64 0 (by decide), rdSeq]
    rfl
  · have hv : bitsVal bits < 2 ^ 64 :=
      Nat.lt_of_lt_of_le (bitsVal_lt bits) (Nat.pow_le_pow_right (by decide) h)
    simp only [if_neg he, List.length_cons, List.length_nil, List.flatMap_cons, List.flatMap_nil,
      List.append_nil, rdU64_le64 (0 + 1) (by decide), rdSeq, rdU64_le64 _ hv]
    rw [if_neg (by simp only [UInt8.toNat_ofNat]; omega)]
    exact congrArg (fun l => some (l, rest)) (wordsBit_bitsVal bits h)

/-- the key states the serialiser is applied to: canonical OPRF key, well-formed public key,
32-byte PRG keys, bit strings of at most 64 bits (the GGM tree has depth 8), sizes below 2^64 -/
def KeyStateValid (ks : KeyState) : Prop :=
  ks.oprfKey < Scalar25519.ell ∧
  ks.publicKey.basePk.length = 32 ∧ StrictTags ks.publicKey.mdPks ∧
  (∀ e ∈ ks.publicKey.mdPks, e.2.length = 32) ∧
  (∀ p ∈ ks.prgs, p.length = 32) ∧ ks.prgs.length < 2 ^ 64 ∧
  ks.ggm.prefixes.length < 2 ^ 64 ∧ (∀ p ∈ ks.ggm.prefixes, p.1.length ≤ 64 ∧ p.2.length < 2 ^ 64) ∧
  ks.ggm.punctured.length < 2 ^ 64 ∧ ∀ b ∈ ks.ggm.punctured, b.length ≤ 64

/-- The encoder is written as the beta-redex `(fun p => …) p`: that is the function under `flatMap` in
`keyStateToBincode`, which `rdSeq_flatMap` applies to each entry. -/
theorem rdPrefixEntry_emit (p : Ggm.Bits × Bytes) (h1 : p.1.length ≤ 64) (h2 : p.2.length < 2 ^ 64)
    (rest : Bytes) :
    rdPrefixEntry
        ((fun p : Ggm.Bits × Bytes => bitvecToBincode p.1 ++ (Bytes.le64 p.2.length ++ p.2)) p ++ rest) =
      some (p, rest) := by
  simp only [rdPrefixEntry, List.append_assoc, rdBitVec_emit p.1 h1, rdVecU8, rdU64_le64 _ h2,
    rdBytes_append _ _ _ rfl]

theorem keyStateFromBincode_emit (ks : KeyState) (h : KeyStateValid ks) (rest : Bytes) :
    keyStateFromBincode (keyStateToBincode ks ++ rest) = some ks := by
  obtain ⟨h1, h2, h3, h4, h5, h6, h7, h8, h9, h10⟩ := h
  simp only [keyStateToBincode, keyStateFromBincode, List.append_assoc,
    rdBytes_append _ _ 32 (toBytes_length _), fromCanonicalBytes_toBytes _ h1, rdPk_emit _ h2 h3 h4,
    rdU64_le64 _ h6, ← List.flatMap_id,
    rdSeq_flatMap (rdBytes 32) id _ (fun p hp rest => rdBytes_append p rest 32 (h5 p hp)), rdU64_le64 _ h7,
    rdSeq_flatMap rdPrefixEntry _ _ (fun p hp rest => rdPrefixEntry_emit p (h8 p hp).1 (h8 p hp).2 rest),
    rdU64_le64 _ h9, rdSeq_flatMap rdBitVec _ _ (fun b hb rest => rdBitVec_emit b (h10 b hb) rest)]

end StarModel.Codec
