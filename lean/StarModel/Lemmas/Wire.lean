/-
Length-prefixed chunk helpers (`store_bytes` / `load_bytes`), the field element codec (`to_repr` /
`from_repr`) and the share and report codecs.
-/
import StarModel.Adss
import StarModel.Star
import StarModel.Lemmas.Bytes

namespace StarModel.Adss

theorem storeBytes_eq (s : Bytes) (h : s.length < 2 ^ 32) : storeBytes s = Bytes.le32 s.length ++ s := by
  unfold storeBytes; rw [Nat.mod_eq_of_lt h]

theorem storeBytes_length (s : Bytes) : (storeBytes s).length = 4 + s.length := by
  rw [storeBytes, List.length_append, Bytes.le32_length]

/-- stated right-nested, as is `drop_chunk`: the form `simp` normalises concatenations to -/
theorem loadBytes_chunk (x rest : Bytes) (h : x.length < 2 ^ 32) :
    loadBytes (Bytes.le32 x.length ++ (x ++ rest)) = .ok x := by
  simp [loadBytes, List.take_left', List.drop_left', Bytes.toNatLE_le32 _ h,
    Nat.not_lt_of_le (Nat.le_add_right _ _)]

theorem drop_chunk (x rest : Bytes) : (Bytes.le32 x.length ++ (x ++ rest)).drop (4 + x.length) = rest := by
  rw [← List.append_assoc]; exact List.drop_left' (by simp)

/-- `bs.drop (4 + x.length)` is what the decoders go on with after the chunk -/
theorem loadBytes_ok_iff {bs x : Bytes} :
    loadBytes bs = .ok x ↔ x.length < 2 ^ 32 ∧ Bytes.le32 x.length ++ (x ++ bs.drop (4 + x.length)) = bs := by
  refine ⟨?_, fun ⟨hx, h⟩ => h ▸ loadBytes_chunk x _ hx⟩
  fun_cases loadBytes bs <;> intro h <;> cases h
  rename_i h4 len hl
  obtain ⟨hlt, he⟩ := Bytes.le32_toNatLE_take4 bs (Nat.le_of_not_lt h4)
  have hxl : ((bs.drop 4).take len).length = len :=
    List.length_take_of_le (List.length_drop ▸ Nat.le_sub_of_add_le' (Nat.le_of_not_lt hl))
  rw [hxl, he, ← List.drop_drop, List.take_append_drop, List.take_append_drop]
  exact ⟨hlt, rfl⟩

theorem loadBytes_not_panic (bs : Bytes) (w : String) : loadBytes bs ≠ .panic w := by
  fun_cases loadBytes bs <;> nofun

end StarModel.Adss

namespace StarModel.Fp

theorem reprLen_eq : reprLen = 24 := by decide +kernel

theorem toRepr_eq (a : Nat) : toRepr a = Bytes.ofNatLE 24 a := by
  unfold toRepr; rw [reprLen_eq]; rfl

theorem toRepr_length (a : Nat) : (toRepr a).length = 24 := by rw [toRepr_eq]; simp

theorem p_lt_256_pow_24 : p < 256 ^ 24 := by decide +kernel

theorem fromRepr_eq (bs : Bytes) : fromRepr bs = Bytes.canonLE 24 p bs := by
  unfold fromRepr; rw [reprLen_eq]; rfl

theorem fromRepr_eq_some_iff (bs : Bytes) (a : Nat) :
    fromRepr bs = some a ↔ bs.length = 24 ∧ Bytes.toNatLE bs < p ∧ Bytes.toNatLE bs = a :=
  fromRepr_eq bs ▸ Bytes.canonLE_eq_some_iff

theorem fromRepr_iff (bs : Bytes) (a : Nat) : fromRepr bs = some a ↔ a < p ∧ toRepr a = bs := by
  rw [fromRepr_eq, toRepr_eq]; exact Bytes.canonLE_iff (Nat.le_of_lt p_lt_256_pow_24)

theorem fromRepr_toRepr (a : Nat) (h : a < p) : fromRepr (toRepr a) = some a :=
  (fromRepr_iff _ a).mpr ⟨h, rfl⟩

end StarModel.Fp

namespace StarModel.Sharks

/-- a share whose coordinates are canonical field elements -/
def Share.Valid (s : Share) : Prop := s.x < Fp.p ∧ ∀ y ∈ s.y, y < Fp.p

theorem flatten_toRepr_length (ys : List Nat) : ((ys.map Fp.toRepr).flatten).length = 24 * ys.length := by
  rw [← List.flatMap_def, List.length_flatMap_of_length fun y _ => Fp.toRepr_length y]

theorem decodeElems_encode (ys : List Nat) (rest : Bytes) (h : ∀ y ∈ ys, y < Fp.p) :
    decodeElems ys.length ((ys.map Fp.toRepr).flatten ++ rest) = some ys := by
  induction ys with
  | nil => rfl
  | cons y ys ih =>
    rw [List.forall_mem_cons] at h
    rw [List.length_cons, decodeElems, List.map_cons, List.flatten_cons, List.append_assoc,
      show Params.fieldElementLen = 24 from rfl, List.take_left' (Fp.toRepr_length y),
      List.drop_left' (Fp.toRepr_length y), Fp.fromRepr_toRepr y h.1, ih h.2]

theorem decodeElems_some (n : Nat) (bs : Bytes) (ys : List Nat) :
    decodeElems n bs = some ys →
      ys.length = n ∧ (∀ y ∈ ys, y < Fp.p) ∧ (ys.map Fp.toRepr).flatten = bs.take (24 * n) := by
  fun_induction decodeElems n bs generalizing ys <;> intro h <;> cases h
  · simp
  · rename_i n bs e he es hes ih
    obtain ⟨h1, h2, h3⟩ := ih es hes
    obtain ⟨hlt, hr⟩ := (Fp.fromRepr_iff _ _).mp he
    refine ⟨by rw [List.length_cons, h1], List.forall_mem_cons.mpr ⟨hlt, h2⟩, ?_⟩
    rw [List.map_cons, List.flatten_cons, hr, h3, Nat.mul_succ, Nat.add_comm, List.take_add]
    rfl

theorem shareToBytes_length (s : Share) : (shareToBytes s).length = 24 * (s.y.length + 1) := by
  unfold shareToBytes; rw [List.length_append, Fp.toRepr_length, flatten_toRepr_length]; omega

theorem shareFromBytes_append (s : Share) (h : s.Valid) (rest : Bytes) (hr : rest.length < 24) :
    shareFromBytes (shareToBytes s ++ rest) = some s := by
  have hn : ((s.y.map Fp.toRepr).flatten ++ rest).length / 24 = s.y.length := by
    rw [List.length_append, flatten_toRepr_length, Nat.mul_add_div (by decide), Nat.div_eq_of_lt hr,
      Nat.add_zero]
  rw [shareFromBytes, shareToBytes, show Params.fieldElementLen = 24 from rfl, List.append_assoc,
    if_neg (by simp [Fp.toRepr_length]), List.take_left' (Fp.toRepr_length _),
    List.drop_left' (Fp.toRepr_length _), Fp.fromRepr_toRepr _ h.1]
  simp only [hn, decodeElems_encode s.y rest h.2]

end StarModel.Sharks

namespace StarModel.Adss

/-- the documented layout of an encoded ADSS share around an already encoded Shamir share `sb` -/
def layout (thr : Nat) (sb c d j : Bytes) : Bytes :=
  Bytes.le32 thr ++ (Bytes.le32 sb.length ++ sb ++ (Bytes.le32 c.length ++ c ++ (Bytes.le32 d.length ++ d ++ j)))

/-- the decoder's only `panic` branches hand on a panic of `load_bytes`, which has none -/
theorem fromBytes_not_panic (bs : Bytes) (w : String) : Share.fromBytes bs ≠ .panic w := by
  fun_cases Share.fromBytes bs <;> simp_all [loadBytes_not_panic]

theorem toBytes_eq_layout (v : Share) (hs : (Sharks.shareToBytes v.S).length < 2 ^ 32)
    (hc : v.C.length < 2 ^ 32) (hd : v.D.length < 2 ^ 32) :
    v.toBytes = layout v.thr (Sharks.shareToBytes v.S) v.C v.D v.J := by
  unfold Share.toBytes layout
  rw [storeBytes_eq _ hs, storeBytes_eq _ hc, storeBytes_eq _ hd]
  simp [List.append_assoc]

end StarModel.Adss

namespace StarModel.Star
open StarModel.Adss

/-- the documented layout of a report: three chunks (ciphertext, share, tag); bytes after the tag
chunk are ignored by the decoder -/
def msgLayout (cb sb tag rest : Bytes) : Bytes :=
  Bytes.le32 cb.length ++ cb ++ (Bytes.le32 sb.length ++ sb ++ (Bytes.le32 tag.length ++ tag ++ rest))

theorem fromBytes_not_panic (bs : Bytes) (w : String) : Message.fromBytes bs ≠ .panic w := by
  fun_cases Message.fromBytes bs <;> simp_all [loadBytes_not_panic, Adss.fromBytes_not_panic]

theorem toBytes_eq_msgLayout (v : Message) (hc : v.ciphertext.length < 2 ^ 32)
    (hs : v.share.toBytes.length < 2 ^ 32) (ht : v.tag.length < 2 ^ 32) :
    v.toBytes = msgLayout v.ciphertext v.share.toBytes v.tag [] := by
  unfold Message.toBytes msgLayout
  rw [storeBytes_eq _ hc, storeBytes_eq _ hs, storeBytes_eq _ ht]
  simp [List.append_assoc]

end StarModel.Star
