/-
Transcripts: a `strobe_digest` is the last output of running its operation list (`digestOps`) from the state
`Strobe.init`; the encoding `(inputs) ↦ operation list` is injective, each input being its own framed
operation; `Strobe.Collision` is two different lists with the same last output.
-/
import StarModel.Lemmas.Bytes
import StarModel.Star

namespace StarModel.Strobe

/-- the state `Strobe::new` starts from before absorbing the protocol label -/
def init (F : Perm) : Strobe := { st := F initBlock, pos := 0, posBegin := 0, isReceiver := none }

theorem new_eq (F : Perm) (proto : Bytes) : new F proto = (operate F (init F) (.metaAd proto)).1 := rfl

theorem runOps_append (F : Perm) (s : Strobe) (a b : List Op) :
    runOps F s (a ++ b) =
      ((runOps F (runOps F s a).1 b).1, (runOps F s a).2 ++ (runOps F (runOps F s a).1 b).2) := by
  induction a generalizing s with
  | nil => rfl
  | cons op ops ih => simp only [List.cons_append, runOps]; rw [ih]

theorem runOps_map_ad (F : Perm) (s : Strobe) (ads : List Bytes) :
    (runOps F s (ads.map .ad)).1 = ads.foldl (ad F) s := by
  induction ads generalizing s with
  | nil => rfl
  | cons a as ih => simp only [List.map_cons, runOps, List.foldl_cons]; rw [ih]; rfl

/-- two different operation lists with the same final output under `F`: the event the
random-oracle assumption on STROBE/Keccak-f rules out -/
def Collision (F : Perm) (ops ops' : List Op) : Prop :=
  ops ≠ ops' ∧ (runOps F (init F) ops).2.getLastD [] = (runOps F (init F) ops').2.getLastD []

end StarModel.Strobe

namespace StarModel.Star
open StarModel.Strobe

/-- the operation list of `strobe_digest(key, ads, label)` (label given as bytes) -/
def digestOps (label key : Bytes) (ads : List Bytes) : List Op :=
  [.metaAd label, .key key] ++ ads.map .ad ++
    [.metaAd (Bytes.le32 Params.starDigestLen), .prf Params.starDigestLen]

theorem strobeDigest_eq_runOps (F : Perm) (key : Bytes) (ads : List Bytes) (label : String) :
    strobeDigest F key ads label =
      (runOps F (init F) (digestOps (Bytes.ofString label) key ads)).2.getLastD [] := by
  unfold strobeDigest digestOps
  simp only
  rw [runOps_append, runOps_append]
  simp only [runOps, List.getLastD_eq_getLast?, List.getLast?_append, List.getLast?_cons_cons,
    List.getLast?_singleton, Option.getD_some, Option.some_or]
  rw [runOps_map_ad]
  rfl

theorem digestOps_injective (label label' key key' : Bytes) (ads ads' : List Bytes)
    (h : digestOps label key ads = digestOps label' key' ads') :
    label = label' ∧ key = key' ∧ ads = ads' := by
  unfold digestOps at h
  simp only [List.cons_append, List.nil_append, List.cons.injEq, Op.metaAd.injEq, Op.key.injEq] at h
  obtain ⟨h1, h2, h3⟩ := h
  refine ⟨h1, h2, ?_⟩
  exact (List.map_inj_right fun _ _ h => Op.ad.inj h).mp (List.append_inj_left' h3 rfl)

theorem digest_collision (F : Perm) {key key' : Bytes} {ads ads' : List Bytes} {label label' : String}
    (hne : digestOps (Bytes.ofString label) key ads ≠ digestOps (Bytes.ofString label') key' ads')
    (heq : strobeDigest F key ads label = strobeDigest F key' ads' label') :
    Collision F (digestOps (Bytes.ofString label) key ads) (digestOps (Bytes.ofString label') key' ads') :=
  ⟨hne, by rw [← strobeDigest_eq_runOps, ← strobeDigest_eq_runOps]; exact heq⟩

/-- operation list of `sample_local_randomness` for the triple `(m, e, t)` -/
def localOps (m e : Bytes) (t : Nat) : List Op :=
  digestOps (Bytes.ofString Params.starSampleLocalLabel) m [e, Bytes.le32 t]

theorem localOps_injective (m e m' e' : Bytes) (t t' : Nat) (ht : t < 2 ^ 32) (ht' : t' < 2 ^ 32)
    (h : localOps m e t = localOps m' e' t') : m = m' ∧ e = e' ∧ t = t' := by
  obtain ⟨_, hm, hads⟩ := digestOps_injective _ _ _ _ _ _ h
  simp only [List.cons.injEq, and_true] at hads
  exact ⟨hm, hads.1, Bytes.le32_injective ht ht' hads.2⟩

theorem sampleLocal_eq_runOps (F : Perm) (m e : Bytes) (t : Nat) :
    sampleLocalRandomness F m e t = (runOps F (init F) (localOps m e t)).2.getLastD [] :=
  strobeDigest_eq_runOps F m _ _

/-- operation list of the `i`-th value of `derive_random_values` -/
def deriveOps (rnd : Bytes) (i : Nat) : List Op :=
  digestOps (Bytes.ofString Params.starDeriveRandomsLabel) rnd [[UInt8.ofNat i]]

theorem deriveOps_injective (rnd rnd' : Bytes) (i j : Nat) (hi : i < 256) (hj : j < 256)
    (h : deriveOps rnd i = deriveOps rnd' j) : rnd = rnd' ∧ i = j := by
  obtain ⟨_, hr, hads⟩ := digestOps_injective _ _ _ _ _ _ h
  refine ⟨hr, ?_⟩
  simp only [List.cons.injEq, and_true] at hads
  have := congrArg UInt8.toNat hads
  rwa [UInt8.toNat_ofNat', UInt8.toNat_ofNat', Nat.mod_eq_of_lt hi, Nat.mod_eq_of_lt hj] at this

def skeOps (r1 epoch : Bytes) : List Op :=
  digestOps (Bytes.ofString Params.starDeriveSkeKeyLabel) r1 [epoch]

theorem skeOps_injective (r r' e e' : Bytes) (h : skeOps r e = skeOps r' e') : r = r' ∧ e = e' := by
  obtain ⟨_, hr, hads⟩ := digestOps_injective _ _ _ _ _ _ h
  simp only [List.cons.injEq, and_true] at hads
  exact ⟨hr, hads⟩

end StarModel.Star
