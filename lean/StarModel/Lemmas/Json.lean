/-
The JSON layer of `StarModel.Codec`: the reader on the text the emitters produce (round trips), and
that whatever the reader accepts is well-formed. Core Lean only.
-/
import StarModel.Lemmas.Bincode
import StarModel.Lemmas.Base64

namespace StarModel.Codec

/-! ### the JSON reader on emitted text -/

/-- a character that stands for itself inside a JSON string -/
def Plain (c : Char) : Prop := c ≠ '"' ∧ c ≠ '\\' ∧ 32 ≤ c.toNat

instance : DecidablePred Plain := fun c => by unfold Plain; infer_instance

theorem skipWs_cons {c : Char} (h : isWs c = false) (cs : List Char) : skipWs (c :: cs) = c :: cs := by
  rw [skipWs, h]; rfl

/-- fuel: one unit per character of `s` and one for the closing quote (the callers give the length of
the remaining input plus one) -/
theorem parseStr_plain (s rest : List Char) (hs : ∀ c ∈ s, Plain c) :
    ∀ fuel, s.length < fuel → parseStr fuel (s ++ '"' :: rest) = some (s, false, rest) := by
  induction s with
  | nil => rintro (_ | f) hf <;> simp [parseStr] at hf ⊢
  | cons c s ih =>
    rintro (_ | f) hf
    · cases hf
    · obtain ⟨h1, h2, h3⟩ := hs c (by simp)
      simp only [List.cons_append, parseStr, if_neg h1, if_neg h2, if_neg (Nat.not_lt.mpr h3),
        ih (fun c hc => hs c (by simp [hc])) f (Nat.lt_of_succ_lt_succ hf)]

/-- what the number reader needs of a decimal digit, as one bundle checked on the ten digits -/
theorem digitChar_spec : ∀ d, d < 10 →
    isDigit (digitChar d) = true ∧ (digitChar d).toNat - 48 = d ∧ (digitChar d = '0' ↔ d = 0) ∧
      isWs (digitChar d) = false := by decide +kernel

/-- what follows a number in emitted text: `,` or `]` -/
def Delim (cs : List Char) : Prop := ∃ c r, cs = c :: r ∧ (c = ',' ∨ c = ']')

theorem takeDigits_delim (cs : List Char) (h : Delim cs) (acc : Nat) : takeDigits cs acc = (acc, cs) := by
  obtain ⟨c, r, rfl, hc | hc⟩ := h <;> subst hc <;> rfl

theorem floatFollows_delim (cs : List Char) (h : Delim cs) : floatFollows cs = false := by
  obtain ⟨c, r, rfl, hc | hc⟩ := h <;> subst hc <;> rfl

theorem takeDigits_digit (d : Nat) (hd : d < 10) (cs : List Char) (acc : Nat) :
    takeDigits (digitChar d :: cs) acc = takeDigits cs (10 * acc + d) := by
  obtain ⟨h1, h2, _, _⟩ := digitChar_spec d hd
  simp only [takeDigits, h1, if_true, h2]

theorem takeDigits_mod (n : Nat) (cs : List Char) :
    takeDigits (digitChar (n % 10) :: cs) (n / 10) = takeDigits cs n := by
  rw [takeDigits_digit _ (Nat.mod_lt _ (by decide)), Nat.div_add_mod]

theorem parseU8_of_takeDigits {d n : Nat} {rest cs : List Char} (h0 : 0 < d) (hd : d < 10) (hn : n < 256)
    (h : Delim cs) (ht : takeDigits rest d = (n, cs)) :
    parseU8 (digitChar d :: rest) = some (UInt8.ofNat n, cs) := by
  obtain ⟨h1, h2, h3, _⟩ := digitChar_spec d hd
  simp only [parseU8, if_neg (fun e => Nat.ne_of_gt h0 (h3.mp e)), h1, if_true, h2, ht,
    floatFollows_delim cs h, Bool.or_false, decide_eq_true_eq]
  rw [if_neg (Nat.not_lt.mpr (Nat.le_of_lt_succ hn))]

theorem parseU8_u8Chars (n : Nat) (hn : n < 256) (cs : List Char) (h : Delim cs) :
    parseU8 (u8Chars n ++ cs) = some (UInt8.ofNat n, cs) := by
  by_cases h10 : n < 10
  · rw [u8Chars, if_pos h10]
    by_cases h0 : n = 0
    · subst h0
      obtain ⟨c, r, rfl, hc | hc⟩ := h <;> subst hc <;> rfl
    · exact parseU8_of_takeDigits (Nat.pos_of_ne_zero h0) h10 hn h (takeDigits_delim cs h n)
  by_cases h100 : n < 100
  · rw [u8Chars, if_neg h10, if_pos h100, List.cons_append, List.cons_append, List.nil_append]
    exact parseU8_of_takeDigits (Nat.div_pos (Nat.not_lt.mp h10) (by decide)) (Nat.div_lt_of_lt_mul h100)
      hn h (by rw [takeDigits_mod, takeDigits_delim cs h])
  · rw [u8Chars, if_neg h10, if_neg h100, List.cons_append, List.cons_append, List.cons_append,
      List.nil_append]
    exact parseU8_of_takeDigits (Nat.div_pos (Nat.not_lt.mp h100) (by decide))
      (Nat.div_lt_of_lt_mul (Nat.lt_trans hn (by decide))) hn h
      (by rw [← Nat.div_div_eq_div_mul n 10 10, takeDigits_mod, takeDigits_mod, takeDigits_delim cs h])

theorem skipWs_u8Chars (n : Nat) (hn : n < 256) (cs : List Char) :
    skipWs (u8Chars n ++ cs) = u8Chars n ++ cs := by
  have hws := fun d hd => (digitChar_spec d hd).2.2.2
  unfold u8Chars
  split
  · next h => exact skipWs_cons (hws n h) _
  · split
    · next h => exact skipWs_cons (hws (n / 10) (Nat.div_lt_of_lt_mul h)) _
    · exact skipWs_cons (hws (n / 100) (Nat.div_lt_of_lt_mul (Nat.lt_trans hn (by decide)))) _

theorem delim_tail (bs : Bytes) (r : List Char) : Delim (tailChars bs ++ ']' :: r) := by
  cases bs with
  | nil => exact ⟨']', r, rfl, Or.inr rfl⟩
  | cons b bs => exact ⟨',', _, rfl, Or.inl rfl⟩

theorem parseElems_tailChars (bs : Bytes) (r : List Char) :
    parseElems bs.length (tailChars bs ++ ']' :: r) = some (bs, ']' :: r) := by
  induction bs with
  | nil => rfl
  | cons b bs ih =>
    simp only [tailChars, List.length_cons, List.cons_append, parseElems, List.append_assoc,
      skipWs_cons (c := ',') rfl, skipWs_u8Chars _ b.toNat_lt,
      parseU8_u8Chars _ b.toNat_lt _ (delim_tail bs r), ih, UInt8.ofNat_toNat]

theorem parseByteArray_emit (b : UInt8) (bs : Bytes) (r : List Char) :
    parseByteArray (bs.length + 1) (bytesToJsonChars (b :: bs) ++ r) = some (b :: bs, r) := by
  simp only [bytesToJsonChars, parseByteArray, List.cons_append, List.append_assoc, List.nil_append,
    skipWs_cons (c := '[') rfl, skipWs_u8Chars _ b.toNat_lt,
    parseU8_u8Chars _ b.toNat_lt _ (delim_tail bs r), Nat.add_sub_cancel, parseElems_tailChars,
    skipWs_cons (c := ']') rfl, UInt8.ofNat_toNat]

theorem parseByteArray_emit32 (pt : Bytes) (h : pt.length = 32) (r : List Char) :
    parseByteArray 32 (bytesToJsonChars pt ++ r) = some (pt, r) := by
  cases pt with
  | nil => simp at h
  | cons b bs =>
    have : bs.length + 1 = 32 := by simpa using h
    rw [← this]; exact parseByteArray_emit b bs r

theorem parseScalar_emit (c : Nat) (h : c < Scalar25519.ell) (r : List Char) :
    parseScalar (bytesToJsonChars (Scalar25519.toBytes c) ++ r) = some (c, r) := by
  unfold parseScalar
  simp only [parseByteArray_emit32 _ (toBytes_length c), fromCanonicalBytes_toBytes c h]

/-! ### the object loop on emitted keys -/

theorem objLoop_end {σ : Type} (onField : List Char → σ → List Char → Option (σ × List Char))
    (fuel : Nat) (first : Bool) (st : σ) (r : List Char) :
    objLoop onField (fuel + 1) first st ('}' :: r) = some (st, r) := by
  simp [objLoop, skipWs, isWs]

theorem objLoop_key {σ : Type} (onField : List Char → σ → List Char → Option (σ × List Char))
    (fuel : Nat) (first : Bool) (st st' : σ) (key r r3 : List Char) (hk : ∀ c ∈ key, Plain c)
    (hf : onField key st r = some (st', r3)) :
    objLoop onField (fuel + 1) first st
        ((if first then [] else [',']) ++ '"' :: (key ++ '"' :: ':' :: r)) =
      objLoop onField fuel false st' r3 := by
  have hp := parseStr_plain key (':' :: r) hk ((key ++ '"' :: ':' :: r).length + 1) (by simp; omega)
  cases first <;>
    simp only [Bool.false_eq_true, if_false, if_true, List.cons_append, List.nil_append, objLoop,
      skipWs_cons (c := ',') rfl, skipWs_cons (c := '"') rfl, Char.reduceEq, hp,
      skipWs_cons (c := ':') rfl, hf]

/-- the field dispatch serde derives for a struct of two fields `k1`, `k2` (a repeated field is an
error, an unknown one is skipped): `proofField` and `evalField` are its two instances -/
def field2 {α β : Type} (k1 k2 : List Char) (p1 : List Char → Option (α × List Char))
    (p2 : List Char → Option (β × List Char)) (key : List Char) (st : Option α × Option β) (cs : List Char) :
    Option ((Option α × Option β) × List Char) :=
  if key = k1 then
    match st.1 with
    | some _ => none
    | none => (p1 cs).map fun r => ((some r.1, st.2), r.2)
  else if key = k2 then
    match st.2 with
    | some _ => none
    | none => (p2 cs).map fun r => ((st.1, some r.1), r.2)
  else (ignoreValue cs).map fun r => (st, r)

theorem proofField_eq : proofField = field2 ['c'] ['s'] parseScalar parseScalar := by
  funext key st cs; obtain ⟨a, b⟩ := st; cases a <;> cases b <;> rfl

theorem evalField_eq : evalField = field2 "output".toList "proof".toList parseOutput parseOptProof := by
  funext key st cs; obtain ⟨a, b⟩ := st; cases a <;> cases b <;> rfl

/-- `3 ≤ fuel`: the loop spends one unit per field and one on the closing brace -/
theorem objLoop_field2 {α β : Type} {k1 k2 e1 e2 : List Char} {p1 : List Char → Option (α × List Char)}
    {p2 : List Char → Option (β × List Char)} {a : α} {b : β}
    (hk1 : ∀ c ∈ k1, Plain c) (hk2 : ∀ c ∈ k2, Plain c) (hne : k2 ≠ k1)
    (h1 : ∀ x, p1 (e1 ++ x) = some (a, x)) (h2 : ∀ x, p2 (e2 ++ x) = some (b, x)) (r : List Char)
    (fuel : Nat) (hfuel : 3 ≤ fuel) :
    objLoop (field2 k1 k2 p1 p2) fuel true (none, none)
      ('"' :: (k1 ++ '"' :: ':' :: (e1 ++ ',' :: '"' :: (k2 ++ '"' :: ':' :: (e2 ++ '}' :: r))))) =
      some ((some a, some b), r) := by
  obtain ⟨f, rfl⟩ := Nat.exists_eq_add_of_le' hfuel
  have f1 : ∀ x, field2 k1 k2 p1 p2 k1 (none, none) (e1 ++ x) = some ((some a, none), x) := by
    intro x; simp [field2, h1]
  have f2 : ∀ x, field2 k1 k2 p1 p2 k2 (some a, none) (e2 ++ x) = some ((some a, some b), x) := by
    intro x; simp [field2, hne, h2]
  exact (objLoop_key _ (f + 2) true _ _ _ _ _ hk1 (f1 _)).trans <|
    (objLoop_key _ (f + 1) false _ _ _ _ _ hk2 (f2 _)).trans (objLoop_end _ f false _ r)

theorem proofToJsonChars_eq (c s : Nat) (r : List Char) : proofToJsonChars c s ++ r =
      '{' :: '"' :: (['c'] ++ '"' :: ':' :: (bytesToJsonChars (Scalar25519.toBytes c) ++
        (',' :: '"' :: (['s'] ++ '"' :: ':' ::
          (bytesToJsonChars (Scalar25519.toBytes s) ++ '}' :: r))))) := by
  unfold proofToJsonChars
  rw [String.toList_ofList, String.toList_ofList]
  simp only [List.append_assoc, List.cons_append, List.nil_append]

theorem parseProof_emit (c s : Nat) (hc : c < Scalar25519.ell) (hs : s < Scalar25519.ell) (r : List Char) :
    parseProof (proofToJsonChars c s ++ r) = some ((c, s), r) := by
  rw [proofToJsonChars_eq, parseProof, skipWs_cons (c := '{') rfl]
  simp only []
  rw [proofField_eq, objLoop_field2 (by decide) (by decide) (by decide) (parseScalar_emit c hc)
    (parseScalar_emit s hs) r _ (by simp)]

/-- Like `Base64.Sym.encodeChars_symbols` an instance of `forall_mem_encodeChars`: `Sym.IsSymbol.ne`
does not give `32 ≤ c.toNat`, so `Plain` is checked on the 64 symbols. -/
theorem encodeChars_plain (bs : Bytes) : ∀ c ∈ Base64.encodeChars bs, Plain c :=
  Base64.forall_mem_encodeChars (by decide +kernel) (by decide) bs

theorem parseOutput_emit (out : Bytes) (h : out.length = 32) (x : List Char) :
    parseOutput ('"' :: (Base64.encodeChars out ++ ['"']) ++ x) = some (out, x) := by
  have hp := parseStr_plain (Base64.encodeChars out) x (encodeChars_plain out)
    ((Base64.encodeChars out ++ '"' :: x).length + 1) (by simp; omega)
  rw [parseOutput, List.cons_append, List.append_assoc, List.cons_append, List.nil_append,
    skipWs_cons (c := '"') rfl]
  simp only [hp, Base64.decodeChars_encodeChars, h, if_true]

/-- the JSON text of the `proof` field -/
def proofValueChars : Option (Nat × Nat) → List Char
  | none => "null".toList
  | some (c, s) => proofToJsonChars c s

/-- a proof value the serialiser can hold: canonical scalars -/
def ProofValid : Option (Nat × Nat) → Prop
  | none => True
  | some (c, s) => c < Scalar25519.ell ∧ s < Scalar25519.ell

theorem parseOptProof_emit (proof : Option (Nat × Nat)) (hp : ProofValid proof) (x : List Char) :
    parseOptProof (proofValueChars proof ++ x) = some (proof, x) := by
  match proof, hp with
  | none, _ => rfl
  | some (c, s), hp =>
    -- the text starts with `{`, not with the `n` of `null`
    rw [proofValueChars, parseOptProof, proofToJsonChars_eq, skipWs_cons (c := '{') rfl,
      ← proofToJsonChars_eq, parseProof_emit c s hp.1 hp.2]
    rfl

theorem evaluationToJsonChars_eq (out : Bytes) (proof : Option (Nat × Nat)) (r : List Char) :
    evaluationToJsonChars out proof ++ r =
      '{' :: '"' :: ("output".toList ++ '"' :: ':' :: ('"' :: (Base64.encodeChars out ++ ['"']) ++
        ',' :: '"' :: ("proof".toList ++ '"' :: ':' :: (proofValueChars proof ++ '}' :: r)))) := by
  -- `proofValueChars` is the `match` inside `evaluationToJsonChars`
  have : evaluationToJsonChars out proof = "{\"output\":\"".toList ++ Base64.encodeChars out ++
    "\",\"proof\":".toList ++ proofValueChars proof ++ ['}'] := rfl
  rw [this, String.toList_ofList, String.toList_ofList, String.toList_ofList, String.toList_ofList]
  simp only [List.append_assoc, List.cons_append, List.nil_append]

theorem parseEvaluation_emit (out : Bytes) (proof : Option (Nat × Nat)) (ho : out.length = 32)
    (hp : ProofValid proof) (r : List Char) :
    parseEvaluation (evaluationToJsonChars out proof ++ r) = some ((out, proof), r) := by
  rw [evaluationToJsonChars_eq, parseEvaluation, skipWs_cons (c := '{') rfl]
  simp only []
  rw [evalField_eq, objLoop_field2 (by decide +kernel) (by decide +kernel) (by decide +kernel)
    (parseOutput_emit out ho) (parseOptProof_emit proof hp) r _ (by simp)]
  rfl

theorem atEnd_of_reads {α : Type} {p : List Char → Option (α × List Char)} {e : List Char} {v : α}
    (h : ∀ r, p (e ++ r) = some (v, r)) : atEnd (p e) = some v := by
  have := h []
  rw [List.append_nil] at this
  rw [this]; rfl

theorem pointFromJson_emit (pt : Bytes) (h : pt.length = 32) :
    pointFromJsonChars (pointToJsonChars pt) = some pt :=
  atEnd_of_reads (parseByteArray_emit32 pt h)

theorem evaluationFromJson_emit (out : Bytes) (proof : Option (Nat × Nat)) (ho : out.length = 32)
    (hp : ProofValid proof) :
    evaluationFromJsonChars (evaluationToJsonChars out proof) = some (out, proof) :=
  atEnd_of_reads (parseEvaluation_emit out proof ho hp)

/-! ### what the JSON reader accepts is well-formed -/

theorem objLoop_inv {σ : Type} (onField : List Char → σ → List Char → Option (σ × List Char))
    (P : σ → Prop)
    (hstep : ∀ key st cs st' r, P st → onField key st cs = some (st', r) → P st')
    (fuel : Nat) (first : Bool) (st : σ) (cs : List Char) (st' : σ) (r : List Char) (hP : P st)
    (h : objLoop onField fuel first st cs = some (st', r)) : P st' := by
  fun_induction objLoop onField fuel first st cs with
  | case3 => cases h; exact hP  -- the closing brace
  | case4 => next hfield ih => exact ih (hstep _ _ _ _ _ hP hfield) h  -- a field, then the loop
  | _ => cases h

/-- every value the parser `p` returns satisfies `P` -/
def Yields {α : Type} (p : List Char → Option (α × List Char)) (P : α → Prop) : Prop :=
  ∀ cs v r, p cs = some (v, r) → P v

/-- the fields collected so far satisfy what their parsers guarantee -/
def FieldsOk {α β : Type} (P1 : α → Prop) (P2 : β → Prop) (st : Option α × Option β) : Prop :=
  (∀ a, st.1 = some a → P1 a) ∧ (∀ b, st.2 = some b → P2 b)

theorem field2_inv {α β : Type} {k1 k2 : List Char} {p1 : List Char → Option (α × List Char)}
    {p2 : List Char → Option (β × List Char)} {P1 : α → Prop} {P2 : β → Prop}
    (h1 : Yields p1 P1) (h2 : Yields p2 P2) (key : List Char) (st : Option α × Option β) (cs : List Char)
    (st' : Option α × Option β) (r : List Char) (hP : FieldsOk P1 P2 st) :
    field2 k1 k2 p1 p2 key st cs = some (st', r) → FieldsOk P1 P2 st' := by
  fun_cases field2 k1 k2 p1 p2 key st cs with
  | case2 =>  -- key `k1`, first slot empty
    intro h
    obtain ⟨⟨v, r'⟩, hp, e⟩ := Option.map_eq_some_iff.mp h
    cases e
    exact ⟨fun a ha => by cases ha; exact h1 _ _ _ hp, hP.2⟩
  | case4 =>  -- key `k2`, second slot empty
    intro h
    obtain ⟨⟨v, r'⟩, hp, e⟩ := Option.map_eq_some_iff.mp h
    cases e
    exact ⟨hP.1, fun b hb => by cases hb; exact h2 _ _ _ hp⟩
  | case5 =>  -- unknown key, value skipped
    intro h
    obtain ⟨r', _, e⟩ := Option.map_eq_some_iff.mp h
    cases e
    exact hP
  | _ => nofun

theorem parseScalar_lt : Yields parseScalar (· < Scalar25519.ell) := by
  intro cs v r
  fun_cases parseScalar cs with
  | case1 => next hcanon => rintro ⟨⟩; exact ((fromCanonicalBytes_iff _ _).mp hcanon).1
  | _ => nofun

theorem parseOutput_length : Yields parseOutput (·.length = 32) := by
  intro cs bs r
  fun_cases parseOutput cs with
  | case1 => next hl => rintro ⟨⟩; exact hl
  | _ => nofun

theorem parseProof_valid (cs : List Char) (c s : Nat) (r : List Char) :
    parseProof cs = some ((c, s), r) → c < Scalar25519.ell ∧ s < Scalar25519.ell := by
  fun_cases parseProof cs with
  | case1 =>  -- object form
    next hloop =>
    intro h; cases h
    have := objLoop_inv _ _ (field2_inv parseScalar_lt parseScalar_lt) _ _ _ _ _ _
      (show FieldsOk _ _ (none, none) from ⟨nofun, nofun⟩) (proofField_eq ▸ hloop)
    exact ⟨this.1 _ rfl, this.2 _ rfl⟩
  | case5 =>  -- array form
    next hs _ _ hc =>
    intro h
    obtain ⟨_, _, e⟩ := Option.map_eq_some_iff.mp h
    cases e
    exact ⟨parseScalar_lt _ _ _ hc, parseScalar_lt _ _ _ hs⟩
  | _ => nofun

theorem parseOptProof_valid : Yields parseOptProof ProofValid := by
  intro cs p r
  fun_cases parseOptProof cs with
  | case1 =>  -- `null`
    intro h
    obtain ⟨_, _, e⟩ := Option.map_eq_some_iff.mp h
    cases e; trivial
  | case2 =>  -- a proof
    intro h
    obtain ⟨⟨⟨c, s⟩, _⟩, hp, e⟩ := Option.map_eq_some_iff.mp h
    cases e
    exact parseProof_valid _ _ _ _ hp

theorem parseEvaluation_valid (cs : List Char) (out : Bytes) (p : Option (Nat × Nat)) (r : List Char)
    (h : parseEvaluation cs = some ((out, p), r)) : out.length = 32 ∧ ProofValid p := by
  revert h
  fun_cases parseEvaluation cs with
  | case1 =>  -- object form
    next p' _ hloop =>
    intro h; cases h
    have := objLoop_inv _ _ (field2_inv parseOutput_length parseOptProof_valid) _ _ _ _ _ _
      (show FieldsOk _ _ (none, none) from ⟨nofun, nofun⟩) (evalField_eq ▸ hloop)
    refine ⟨this.1 _ rfl, ?_⟩
    cases p' with
    | none => trivial
    | some q => exact this.2 _ rfl
  | case5 =>  -- array form
    next hproof _ _ hout =>
    intro h
    obtain ⟨_, _, e⟩ := Option.map_eq_some_iff.mp h
    cases e
    exact ⟨parseOutput_length _ _ _ hout, parseOptProof_valid _ _ _ hproof⟩
  | _ => nofun

theorem atEnd_some {α : Type} (x : Option (α × List Char)) (a : α) (h : atEnd x = some a) :
    ∃ r, x = some (a, r) := by
  revert h
  fun_cases atEnd x with
  | case1 => rintro ⟨⟩; exact ⟨_, rfl⟩
  | _ => nofun

theorem parseElems_length (n : Nat) (cs : List Char) (bs : Bytes) (r : List Char) :
    parseElems n cs = some (bs, r) → bs.length = n := by
  fun_induction parseElems n cs generalizing bs r with
  | case1 => rintro ⟨⟩; rfl
  | case2 => next he ih => rintro ⟨⟩; exact congrArg (· + 1) (ih _ _ he)
  | _ => nofun

theorem parseByteArray_length (n : Nat) (hn : 0 < n) (cs : List Char) (bs : Bytes) (r : List Char)
    (h : parseByteArray n cs = some (bs, r)) : bs.length = n := by
  revert h
  fun_cases parseByteArray n cs with
  | case1 =>
    next he _ _ =>
    have hl := parseElems_length _ _ _ _ he
    intro h; cases h
    rw [List.length_cons, hl, Nat.sub_add_cancel hn]
  | _ => nofun

end StarModel.Codec
