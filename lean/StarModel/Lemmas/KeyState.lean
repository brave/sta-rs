/-
Counting and length facts that `C14.keyStateValid_afterPunctures` uses: a duplicate-free list of bit
strings of length at most `n` has fewer than `2^(n+1)` members, a prefix-free list has no duplicates, and
the STROBE PRG returns seeds of `Params.ggmSeedLen` bytes.
-/
import StarModel.Lemmas.Ggm
import StarModel.Lemmas.Strobe

namespace StarModel.Ggm

/-- every bit string of length at most `n` -/
def allBits : Nat → List Bits
  | 0 => [[]]
  | n + 1 => [] :: ((allBits n).map (false :: ·) ++ (allBits n).map (true :: ·))

theorem mem_allBits : ∀ (n : Nat) (p : Bits), p.length ≤ n → p ∈ allBits n
  | 0, p, h => by
    have : p = [] := List.eq_nil_of_length_eq_zero (by omega)
    subst this; simp [allBits]
  | n + 1, [], _ => by simp [allBits]
  | n + 1, b :: p, h => by
    have hp : p ∈ allBits n := mem_allBits n p (by simpa using h)
    simp only [allBits, List.mem_cons, List.mem_append, List.mem_map]
    right
    cases b
    · exact Or.inl ⟨p, hp, rfl⟩
    · exact Or.inr ⟨p, hp, rfl⟩

theorem allBits_length (n : Nat) : (allBits n).length = 2 ^ (n + 1) - 1 := by
  induction n with
  | zero => rfl
  | succ n ih =>
    simp only [allBits, List.length_cons, List.length_append, List.length_map, ih]
    have : 1 ≤ 2 ^ (n + 1) := Nat.one_le_two_pow
    rw [Nat.pow_succ 2 (n + 1)]
    omega

theorem nodup_bits_length_lt (l : List Bits) (n : Nat) (hd : l.Nodup) (hl : ∀ p ∈ l, p.length ≤ n) :
    l.length < 2 ^ (n + 1) := by
  have := hd.length_le_of_subset fun p hp => mem_allBits n p (hl p hp)
  rw [allBits_length] at this
  have : 1 ≤ 2 ^ (n + 1) := Nat.one_le_two_pow
  omega

variable {Seed : Type}

theorem nodup_of_prefixFree (l : List (Bits × Seed)) (h : l.Pairwise Incomp) :
    (l.map Prod.fst).Nodup := by
  rw [List.Nodup, List.pairwise_map]
  refine h.imp ?_
  intro a b hab he
  apply hab.1
  have he' : a.1 = b.1 := he
  rw [he']
  exact List.prefix_refl _

theorem bitEval_length (F : Perm) (k0 k1 : Bytes) (rest : Bits) (s : Bytes) :
    (bitEval (strobeG F k0 k1) rest s).length = if rest = [] then s.length else Params.ggmSeedLen := by
  induction rest generalizing s with
  | nil => rfl
  | cons b rest ih =>
    simp only [bitEval, List.foldl_cons] at ih ⊢
    rw [ih]
    simp only [List.cons_ne_nil, if_false]
    by_cases hr : rest = []
    · rw [if_pos hr]
      exact StrobeRng.fillBytes_length _ _ _
    · rw [if_neg hr]

end StarModel.Ggm
