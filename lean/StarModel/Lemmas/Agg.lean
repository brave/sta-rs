/-
The reference aggregation server (`StarModel.Agg`): bucket collection as grouping by key in order
of first appearance, `mapOutcome` on total functions, and the server's payload splitting against
the documented framing.
-/
import StarModel.Agg
import StarModel.Lemmas.Star

namespace StarModel.Agg

section Collect
variable {α κ : Type} [DecidableEq κ]

/-- keys in order of first appearance -/
def firstKeys (ks : List κ) : List κ := ks.foldl (fun acc k => if k ∈ acc then acc else acc ++ [k]) []

theorem firstKeys_snoc (ks : List κ) (k : κ) :
    firstKeys (ks ++ [k]) = if k ∈ firstKeys ks then firstKeys ks else firstKeys ks ++ [k] := by
  unfold firstKeys; rw [List.foldl_append]; rfl

/-- in Mathlib's terms (`dedup` keeps LAST occurrences) -/
theorem firstKeys_eq (ks : List κ) : firstKeys ks = ks.reverse.dedup.reverse := by
  induction ks using List.reverseRecOn with
  | nil => rfl
  | append_singleton ks k ih =>
    simp only [firstKeys_snoc, ih, List.reverse_concat', List.dedup_cons', apply_ite List.reverse,
      List.reverse_cons, List.mem_reverse]

theorem mem_firstKeys (ks : List κ) (k : κ) : k ∈ firstKeys ks ↔ k ∈ ks := by simp [firstKeys_eq]

theorem firstKeys_nodup (ks : List κ) : (firstKeys ks).Nodup := by simp [firstKeys_eq, List.nodup_dedup]

theorem firstKeys_map_injOn {β : Type} [DecidableEq β] (g : κ → β) (ks : List κ)
    (hinj : ∀ a ∈ ks, ∀ b ∈ ks, g a = g b → a = b) :
    firstKeys (ks.map g) = (firstKeys ks).map g := by
  induction ks using List.reverseRecOn with
  | nil => rfl
  | append_singleton ks a ih =>
    have hmem : g a ∈ (firstKeys ks).map g ↔ a ∈ firstKeys ks := by
      refine ⟨fun h => ?_, List.mem_map_of_mem⟩
      obtain ⟨b, hb, hgb⟩ := List.mem_map.mp h
      rwa [← hinj b (List.mem_append_left _ ((mem_firstKeys ks b).mp hb)) a List.mem_concat_self hgb]
    simp only [List.map_append, List.map_singleton, firstKeys_snoc, apply_ite (List.map g), hmem,
      ih fun x hx y hy => hinj x (List.mem_append_left _ hx) y (List.mem_append_left _ hy)]

theorem insertBucket_map (key : α → κ) (a : α) (ks : List κ) (f : κ → List α) (hnd : ks.Nodup)
    (hf : key a ∉ ks → f (key a) = []) :
    insertBucket key a (ks.map fun k => (k, f k)) =
      (if key a ∈ ks then ks else ks ++ [key a]).map fun k =>
        (k, if k = key a then f k ++ [a] else f k) := by
  induction ks with
  | nil => simp [insertBucket, hf]
  | cons k ks ih =>
    rw [List.nodup_cons] at hnd
    rw [List.map_cons, insertBucket]
    by_cases hk : k = key a
    · subst hk
      rw [if_pos rfl, if_pos List.mem_cons_self, List.map_cons, if_pos rfl]
      exact congrArg _ (List.map_congr_left fun k' hk' => by
        rw [if_neg fun h : k' = key a => hnd.1 (h ▸ hk')])
    · rw [if_neg hk, ih hnd.2 fun h => hf fun h' => (List.mem_cons.mp h').elim (fun e => hk e.symm) h]
      simp only [List.mem_cons, Ne.symm hk, false_or, List.cons_append, ← apply_ite (List.cons k),
        List.map_cons, if_neg hk]

theorem collectBy_spec (key : α → κ) (l : List α) :
    collectBy key l = (firstKeys (l.map key)).map fun k => (k, l.filter fun a => key a = k) := by
  induction l using List.reverseRecOn with
  | nil => rfl
  | append_singleton l a ih =>
    have hf : key a ∉ firstKeys (l.map key) → l.filter (fun b => key b = key a) = [] := fun hm =>
      List.filter_eq_nil_iff.mpr fun b hb h =>
        hm ((mem_firstKeys _ _).mpr (List.mem_map.mpr ⟨b, hb, of_decide_eq_true h⟩))
    rw [collectBy, List.foldl_append, List.foldl_cons, List.foldl_nil, ← collectBy, ih,
      insertBucket_map key a _ _ (firstKeys_nodup _) hf, List.map_append, List.map_singleton, ← firstKeys_snoc]
    refine List.map_congr_left fun k _ => ?_
    by_cases hk : k = key a
    · rw [if_pos hk, List.filter_append, List.filter_cons_of_pos (by simpa using hk.symm), List.filter_nil]
    · rw [if_neg hk, List.filter_append, List.filter_cons_of_neg (by simpa using Ne.symm hk), List.filter_nil,
        List.append_nil]

/-- Buckets of elements `r i` given by indices `i`, when the real key of `r i` is a relabelling `g` of an
abstract key `idx i` and `g` is injective on the abstract keys present: grouping by the real key is
grouping the indices by the abstract key. -/
theorem collectBy_map_of_injOn {ι β : Type} [DecidableEq β] (key : α → β) (r : ι → α) (idx : ι → κ)
    (g : κ → β) (l : List ι) (hk : ∀ i ∈ l, key (r i) = g (idx i))
    (hg : ∀ i ∈ l, ∀ j ∈ l, g (idx i) = g (idx j) → idx i = idx j) :
    (collectBy key (l.map r)).map (·.2) =
      (firstKeys (l.map idx)).map fun k => (l.filter fun i => idx i = k).map r := by
  have hkeys : (l.map r).map key = (l.map idx).map g := by
    rw [List.map_map, List.map_map]
    exact List.map_congr_left hk
  rw [collectBy_spec, hkeys, firstKeys_map_injOn g _ (List.forall_mem_map.mpr fun i hi =>
    List.forall_mem_map.mpr (hg i hi)), List.map_map, List.map_map]
  refine List.map_congr_left fun k hk' => ?_
  obtain ⟨j, hj, rfl⟩ := List.mem_map.mp ((mem_firstKeys _ _).mp hk')
  rw [Function.comp_apply, Function.comp_apply, List.filter_map]
  refine congrArg _ (List.filter_congr fun i hi => decide_eq_decide.mpr ?_)
  rw [hk i hi]
  exact ⟨hg i hi j hj, congrArg g⟩

end Collect

theorem mapOutcome_map_map_ok {α β γ : Type} (f : β → Outcome γ) (g : α → β) (h : α → γ) (l : List α)
    (H : ∀ a ∈ l, f (g a) = .ok (h a)) : mapOutcome f (l.map g) = .ok (l.map h) := by
  induction l with
  | nil => rfl
  | cons a as ih =>
    rw [List.forall_mem_cons] at H
    rw [List.map_cons, mapOutcome, H.1]
    simp only
    rw [ih H.2]
    rfl

theorem mapOutcome_map_ok {α β : Type} (f : α → Outcome β) (g : α → β) (l : List α)
    (h : ∀ a ∈ l, f a = .ok (g a)) : mapOutcome f l = .ok (l.map g) := by
  simpa using mapOutcome_map_map_ok f id g l h

/-- how the server reports associated data: EMPTY data is reported as absent -/
def normAux : Option Bytes → Option Bytes
  | some [] => none
  | a => a

theorem splitPayload_of_parse (pt m : Bytes) (aux : Option Bytes)
    (h : Star.parsePayload pt = some (m, aux)) : splitPayload pt = .ok (m, normAux aux) := by
  rw [Star.parsePayload] at h
  rw [splitPayload]
  split at h
  · rename_i mb h1
    simp only [h1] at h ⊢
    split at h
    · cases h; simp [*, normAux]
    · split at h
      · rename_i a h2
        cases h
        rw [h2]
        cases a <;> simp [*, normAux]
      · cases h
  · cases h

theorem recoverMeasurements_map {ι : Type} (F : Perm) (epoch : String) (l : List ι) (hne : l ≠ [])
    (rep : ι → Star.Message) (aux : ι → Option Bytes) (c : Adss.Commune) (m : Bytes)
    (hrec : Star.shareRecover F (l.map fun i => (rep i).share) = .ok c)
    (hdec : ∀ i ∈ l, Star.parsePayload (Star.decrypt F (Star.deriveSkeKey F c.M (Bytes.ofString epoch))
      (rep i).ciphertext Params.starEncryptLabel) = some (m, aux i)) :
    recoverMeasurements F epoch (l.map rep) = .ok (m, l.map fun i => normAux (aux i)) := by
  rw [recoverMeasurements, keyRecover, List.map_map]
  simp only [Function.comp_def, hrec, List.map_map]
  rw [mapOutcome_map_map_ok splitPayload _ (fun i => (m, normAux (aux i))) l
    fun i hi => splitPayload_of_parse _ _ _ (hdec i hi)]
  obtain ⟨i0, rest, rfl⟩ := List.exists_cons_of_ne_nil hne
  simp

end StarModel.Agg
