/-
`Sharks::recover` / `interpolate`. The insert-if-new loop of `recover` keeps `firstByX`, which gives
`recover` in closed form for arbitrary shares (`recover_cons`); on points of a dealing (`Dealt`, encoding
`secretOf`) it returns the secret iff `t` distinct points are present (`recover_evaluate`).
-/
import StarModel.Lemmas.Shamir
import StarModel.Lemmas.Wire

namespace StarModel.Sharks

-- tried first, this instance spares every `if ∀ s ∈ l, …` below a search for a `Fintype Share` through
-- Mathlib's order hierarchy
attribute [local instance high] List.decidableBAll

@[simp] theorem evaluate_x (polys : List (List Nat)) (x : Nat) : (evaluate polys x).x = x := rfl
@[simp] theorem evaluate_y_length (polys : List (List Nat)) (x : Nat) :
    (evaluate polys x).y.length = polys.length := by simp [evaluate]

/-- shares at different points -/
abbrev Apart (a b : Share) : Prop := a.x ≠ b.x

/-- the first share at each point, in order: what the insert-if-new loop of `recover` keeps (`pwFilter`
keeps greedily from the right, hence the reversals) -/
def firstByX (l : List Share) : List Share := (l.reverse.pwFilter Apart).reverse

theorem firstByX_subset (l : List Share) : firstByX l ⊆ l := fun _ h =>
  List.mem_reverse.mp (List.pwFilter_subset _ (List.mem_reverse.mp h))

theorem firstByX_length (l : List Share) : (firstByX l).length = (l.map (·.x)).toFinset.card := by
  rw [firstByX, List.length_reverse, ← List.length_map (f := (·.x)),
    ← List.pwFilter_map (R := (· ≠ ·)) (·.x) l.reverse, ← List.toFinset_reverse, ← List.map_reverse,
    List.card_toFinset]
  rfl

theorem firstByX_map_evaluate (polys : List (List Nat)) (xs : List Nat) :
    firstByX (xs.map (evaluate polys)) = xs.reverse.dedup.reverse.map (evaluate polys) := by
  rw [firstByX, ← List.map_reverse, List.pwFilter_map, ← List.map_reverse]
  -- `Apart` of two evaluations unfolds to `≠` of the points, and `dedup` is `pwFilter (· ≠ ·)`
  rfl

/-- the loop invariant: the accumulator is `pwFilter Apart` of the shares seen, latest first -/
theorem collect_eq (len : Nat) (shares pre : List Share) :
    collect len shares ((pre.pwFilter Apart).map (·.x)) (pre.pwFilter Apart) =
      if ∀ s ∈ shares, s.y.length = len then some ((shares.reverse ++ pre).pwFilter Apart).reverse
      else none := by
  induction shares generalizing pre with
  | nil => rfl
  | cons s rest ih =>
    rw [collect, List.reverse_cons, List.append_assoc, List.singleton_append]
    by_cases hl : s.y.length = len
    · rw [if_neg (not_not.mpr hl),
        if_congr (List.forall_mem_cons.trans (and_iff_right hl) : _ ↔ ∀ s ∈ rest, s.y.length = len) rfl rfl, ← ih]
      by_cases hk : s.x ∈ (pre.pwFilter Apart).map (·.x)
      · rw [if_pos (List.contains_iff_mem.mpr hk), List.pwFilter_cons_of_neg]
        obtain ⟨b, hb, e⟩ := List.mem_map.mp hk
        exact fun h => h b hb e.symm
      · rw [if_neg (mt List.contains_iff_mem.mp hk), List.pwFilter_cons_of_pos, List.map_cons]
        exact fun b hb e => hk (List.mem_map.mpr ⟨b, hb, e.symm⟩)
    · rw [if_pos hl, if_neg (fun h => hl (h s List.mem_cons_self))]

theorem recover_cons (t : Nat) (s0 : Share) (rest : List Share) :
    recover t (s0 :: rest) =
      if ∀ s ∈ rest, s.y.length = s0.y.length then
        if (firstByX (s0 :: rest)).length < t then .err "few" else interpolate ((firstByX (s0 :: rest)).take t)
      else .err "length" := by
  unfold recover
  have := collect_eq s0.y.length (s0 :: rest) []
  rw [List.pwFilter_nil, List.map_nil, List.append_nil] at this
  simp only [this, List.forall_mem_cons, true_and]
  by_cases h : ∀ s ∈ rest, s.y.length = s0.y.length
  · rw [if_pos h, if_pos h]; rfl
  · rw [if_neg h, if_neg h]

theorem interpolate_uniform {len : Nat} {shares : List Share} (h : ∀ s ∈ shares, s.y.length = len) :
    interpolate shares = if shares = [] then .err "empty" else
      .ok ((List.range len).map fun k => Fp.toRepr (shares.foldl
        (fun acc si => Fp.add acc (Fp.mul (weight shares si.x) (si.y.getD k 0))) 0)).flatten := by
  cases shares with
  | nil => rfl
  | cons s0 rest =>
    rw [interpolate, if_pos (List.all_eq_true.mpr fun s hs => by simp [h s hs, h s0 List.mem_cons_self]),
      h s0 List.mem_cons_self, if_neg (List.cons_ne_nil _ _)]

/-- `recover` never reaches the out-of-bounds index of `interpolate`: all kept shares have one length -/
theorem recover_not_panic (t : Nat) (shares : List Share) (w : String) : recover t shares ≠ .panic w := by
  cases shares with
  | nil => nofun
  | cons s0 rest =>
    rw [recover_cons]
    split
    · rename_i h
      rw [interpolate_uniform (len := s0.y.length) fun s hs => by
        rcases List.mem_cons.mp (firstByX_subset _ (List.mem_of_mem_take hs)) with rfl | hs
        exacts [rfl, h s hs]]
      split
      · nofun
      · split <;> nofun
    · nofun

theorem weight_cast {ds : List Nat} (hnd : ds.Nodup) (polys : List (List Nat)) (xi : Nat) :
    ((weight (ds.map (evaluate polys)) xi : Nat) : K) =
      ∏ xj ∈ ds.toFinset.erase xi, (xj : K) * ((xj : K) - (xi : K))⁻¹ := by
  unfold weight
  rw [Fp.cast_foldl_mul (fun sj : Share => Fp.mul sj.x ((Fp.invert (Fp.sub sj.x xi)).getD 0)), List.filter_map,
    List.map_map, Nat.cast_one, one_mul, ← Finset.filter_ne', List.filter_toFinset,
    List.prod_toFinset _ (hnd.filter _)]
  congr 1
  refine List.map_congr_left fun xj _ => ?_
  simp only [Function.comp, evaluate, Fp.mul_cast, Fp.invert_getD_cast, Fp.sub_cast]

theorem interp_sum_cast {ds : List Nat} (hnd : ds.Nodup) (hlt : ∀ x ∈ ds, x < Fp.p)
    (polys : List (List Nat)) (k : Nat) (hdeg : (polys.getD k []).length ≤ ds.length) :
    (((ds.map (evaluate polys)).foldl (fun acc si =>
        Fp.add acc (Fp.mul (weight (ds.map (evaluate polys)) si.x) (si.y.getD k 0))) 0 : Nat) : K) =
      (polyOf (polys.getD k [])).eval 0 := by
  rw [Fp.cast_foldl_add (fun si : Share => Fp.mul (weight (ds.map (evaluate polys)) si.x) (si.y.getD k 0)),
    Nat.cast_zero, zero_add, List.map_map,
    lagrange_zero ds.toFinset Nat.cast (fun a ha b hb => Fp.eq_of_natCast_eq (hlt a (List.mem_toFinset.mp ha))
      (hlt b (List.mem_toFinset.mp hb))) _ (lt_of_lt_of_le (polyOf_degree_lt _)
      (by rw [List.toFinset_card_of_nodup hnd]; exact_mod_cast hdeg)),
    List.sum_toFinset _ hnd]
  congr 1
  refine List.map_congr_left fun xi _ => ?_
  rw [Function.comp, Fp.mul_cast, weight_cast hnd, ← evalPoly_cast]
  congr 2
  rw [evaluate, List.getD_eq_getElem?_getD, List.getD_eq_getElem?_getD, List.getElem?_map]
  cases polys[k]? <;> rfl

/-- a dealt polynomial list: every polynomial has exactly `t` coefficients (degree ≤ t-1) and a
canonical constant term -/
def Dealt (t : Nat) (polys : List (List Nat)) : Prop :=
  ∀ poly ∈ polys, poly.length = t ∧ ∃ cs s, poly = cs ++ [s] ∧ s < Fp.p

/-- the secret bytes a dealing encodes: the canonical encodings of the constant terms -/
def secretOf (polys : List (List Nat)) : Bytes :=
  (polys.map fun poly => Fp.toRepr (poly.getLastD 0)).flatten

theorem interpolate_evaluate (t : Nat) (ht : 1 ≤ t) (polys : List (List Nat)) (hp : Dealt t polys)
    (ds : List Nat) (hnd : ds.Nodup) (hlt : ∀ x ∈ ds, x < Fp.p) (hlen : ds.length = t) :
    interpolate (ds.map (evaluate polys)) = .ok (secretOf polys) := by
  have hne : ds.map (evaluate polys) ≠ [] := by
    rw [Ne, List.map_eq_nil_iff, ← List.length_eq_zero_iff, hlen]; exact Nat.ne_of_gt ht
  rw [interpolate_uniform (len := polys.length) (List.forall_mem_map.mpr fun x _ => evaluate_y_length polys x),
    if_neg hne, secretOf]
  congr 2
  refine List.ext_getElem (by rw [List.length_map, List.length_map, List.length_range]) fun k hk _ => ?_
  rw [List.length_map, List.length_range] at hk
  obtain ⟨hpl, cs, s, hcs, hs⟩ := hp polys[k] (List.getElem_mem hk)
  have hgd : polys.getD k [] = cs ++ [s] := by
    rw [List.getD_eq_getElem?_getD, List.getElem?_eq_getElem hk]; exact hcs
  rw [List.getElem_map, List.getElem_map, List.getElem_range, hcs, List.getLastD_concat]
  -- both sides are canonical: the fold over a non-empty list ends with `Fp.add`
  refine congrArg Fp.toRepr (Fp.eq_of_natCast_eq ?_ hs ?_)
  · obtain ⟨l, a, h⟩ := (List.eq_nil_or_concat _).resolve_left hne
    rw [h, List.concat_eq_append, List.foldl_append]; exact Fp.add_lt _ _
  · rw [interp_sum_cast hnd hlt polys k (by rw [hgd, ← hcs, hpl, hlen]), hgd, polyOf_eval_zero]

theorem recover_evaluate (t : Nat) (ht : 1 ≤ t) (polys : List (List Nat)) (hp : Dealt t polys)
    (xs : List Nat) (hlt : ∀ x ∈ xs, x < Fp.p) :
    recover t (xs.map (evaluate polys)) =
      if t ≤ xs.toFinset.card then .ok (secretOf polys) else .err "few" := by
  cases xs with
  | nil => exact (if_neg (Nat.not_le.mpr ht)).symm
  | cons x0 xr =>
    rw [List.map_cons, recover_cons, if_pos (List.forall_mem_map.mpr fun x _ => by
        rw [evaluate_y_length, evaluate_y_length]),
      ← List.map_cons, firstByX_map_evaluate, List.length_map, List.length_reverse, ← List.card_toFinset,
      List.toFinset_reverse]
    by_cases hc : t ≤ (x0 :: xr).toFinset.card
    · rw [if_pos hc, if_neg (Nat.not_lt.mpr hc), ← List.map_take]
      refine interpolate_evaluate t ht polys hp _
        ((List.nodup_reverse.mpr (List.nodup_dedup _)).sublist (List.take_sublist _ _))
        (fun x hx => hlt x ?_) ?_
      · exact List.mem_reverse.mp (List.dedup_subset _ (List.mem_reverse.mp (List.mem_of_mem_take hx)))
      · rw [List.length_take, List.length_reverse, ← List.card_toFinset, List.toFinset_reverse]
        exact Nat.min_eq_left hc
    · rw [if_neg hc, if_pos (Nat.lt_of_not_le hc)]

theorem recover_ragged (t : Nat) (s0 : Share) (rest : List Share)
    (h : ∃ s ∈ rest, s.y.length ≠ s0.y.length) : recover t (s0 :: rest) = .err "length" := by
  rw [recover_cons, if_neg (fun hall => h.elim fun s hs => hs.2 (hall s hs.1))]

theorem recover_threshold_zero (shares : List Share) : ∃ k, recover 0 shares = .err k := by
  cases shares with
  | nil => exact ⟨_, rfl⟩
  | cons s0 rest => rw [recover_cons]; split <;> simp [interpolate]

theorem recover_ok_count (t : Nat) (shares : List Share) (key : Bytes) (h : recover t shares = .ok key) :
    1 ≤ t ∧ t ≤ (shares.map (·.x)).toFinset.card := by
  cases shares with
  | nil => cases h
  | cons s0 rest =>
    rw [recover_cons, firstByX_length] at h
    split at h
    · split at h
      · cases h
      · refine ⟨Nat.pos_of_ne_zero ?_, by omega⟩
        rintro rfl
        simp [interpolate] at h
    · cases h

end StarModel.Sharks
