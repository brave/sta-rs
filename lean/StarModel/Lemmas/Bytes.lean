/-
Little-endian integer codec lemmas, the decoder `canonLE` of canonical fixed-width encodings, and
inversion lemmas for `Outcome`. Core Lean only.
-/
import StarModel.Bytes

/-- a concatenation of `l.length` pieces of `k` elements each -/
theorem List.length_flatMap_of_length {α β : Type} {f : α → List β} {k : Nat} {l : List α}
    (h : ∀ a ∈ l, (f a).length = k) : (l.flatMap f).length = k * l.length := by
  rw [List.length_flatMap, List.map_congr_left h, List.map_const', List.sum_replicate_nat, Nat.mul_comm]

namespace StarModel.Bytes

@[simp] theorem ofNatLE_length (n v : Nat) : (ofNatLE n v).length = n := by
  induction n generalizing v with
  | zero => rfl
  | succ n ih => simp [ofNatLE, ih]

theorem toNatLE_lt (bs : Bytes) : toNatLE bs < 256 ^ bs.length := by
  induction bs with
  | nil => simp [toNatLE]
  | cons b bs ih =>
    simp only [toNatLE, List.length_cons, Nat.pow_succ]
    have := b.toNat_lt
    omega

theorem toNatLE_append_zeros (a : Bytes) (n : Nat) : toNatLE (a ++ zeros n) = toNatLE a := by
  induction a with
  | nil => induction n with
    | zero => rfl
    | succ n ih => exact (congrArg (0 + 256 * ·) ih : _)
  | cons b a ih => rw [List.cons_append, toNatLE, toNatLE, ih]

theorem toNatLE_ofNatLE (n v : Nat) : toNatLE (ofNatLE n v) = v % 256 ^ n := by
  induction n generalizing v with
  | zero => simp [ofNatLE, toNatLE, Nat.mod_one]
  | succ n ih =>
    simp only [ofNatLE, toNatLE, ih]
    have h1 : (UInt8.ofNat (v % 256)).toNat = v % 256 := by
      simp [UInt8.toNat_ofNat']
    rw [h1, Nat.pow_succ, Nat.mul_comm (256 ^ n) 256, Nat.mod_mul]

theorem ofNatLE_toNatLE (bs : Bytes) : ofNatLE bs.length (toNatLE bs) = bs := by
  induction bs with
  | nil => rfl
  | cons b bs ih =>
    have hb : b.toNat < 256 := b.toNat_lt
    rw [List.length_cons, toNatLE, ofNatLE, Nat.add_mul_mod_self_left, Nat.mod_eq_of_lt hb,
      Nat.add_mul_div_left _ _ (by decide), Nat.div_eq_of_lt hb, Nat.zero_add, ih, UInt8.ofNat_toNat]

theorem ofNatLE_eq_iff {n v : Nat} (hv : v < 256 ^ n) (bs : Bytes) :
    ofNatLE n v = bs ↔ bs.length = n ∧ toNatLE bs = v := by
  constructor
  · rintro rfl
    exact ⟨ofNatLE_length n v, by rw [toNatLE_ofNatLE, Nat.mod_eq_of_lt hv]⟩
  · rintro ⟨rfl, rfl⟩
    exact ofNatLE_toNatLE bs

theorem toNatLE_injective {a b : Bytes} (hl : a.length = b.length) (h : toNatLE a = toNatLE b) : a = b := by
  rw [← ofNatLE_toNatLE a, ← ofNatLE_toNatLE b, hl, h]

theorem ofNatLE_injective {n a b : Nat} (ha : a < 256 ^ n) (hb : b < 256 ^ n)
    (h : ofNatLE n a = ofNatLE n b) : a = b := by
  have := congrArg toNatLE h
  rwa [toNatLE_ofNatLE, toNatLE_ofNatLE, Nat.mod_eq_of_lt ha, Nat.mod_eq_of_lt hb] at this

/-- the decoder of the canonical `n`-byte encoding of the numbers below `m`: `Fp::from_repr` is
`canonLE 24 p`, `Scalar::from_canonical_bytes` is `canonLE 32 ℓ` -/
def canonLE (n m : Nat) (bs : Bytes) : Option Nat :=
  if bs.length ≠ n then none else if toNatLE bs < m then some (toNatLE bs) else none

theorem canonLE_eq_some_iff {n m : Nat} {bs : Bytes} {v : Nat} :
    canonLE n m bs = some v ↔ bs.length = n ∧ toNatLE bs < m ∧ toNatLE bs = v := by
  unfold canonLE
  by_cases h1 : bs.length = n
  · by_cases h2 : toNatLE bs < m <;> simp [h1, h2]
  · simp [h1]

theorem canonLE_iff {n m : Nat} (hm : m ≤ 256 ^ n) {bs : Bytes} {v : Nat} :
    canonLE n m bs = some v ↔ v < m ∧ ofNatLE n v = bs := by
  rw [canonLE_eq_some_iff]
  constructor
  · rintro ⟨rfl, hv, rfl⟩
    exact ⟨hv, ofNatLE_toNatLE bs⟩
  · rintro ⟨hv, e⟩
    obtain ⟨hl, rfl⟩ := (ofNatLE_eq_iff (Nat.lt_of_lt_of_le hv hm) bs).mp e
    exact ⟨hl, hv, rfl⟩

@[simp] theorem le32_length (n : Nat) : (le32 n).length = 4 := by simp [le32]

theorem toNatLE_le32 (n : Nat) (h : n < 2 ^ 32) : toNatLE (le32 n) = n := by
  rw [le32, toNatLE_ofNatLE]; exact Nat.mod_eq_of_lt (by simpa using h)

theorem le32_injective {a b : Nat} (ha : a < 2 ^ 32) (hb : b < 2 ^ 32) (h : le32 a = le32 b) : a = b :=
  ofNatLE_injective (by simpa using ha) (by simpa using hb) h

theorem le32_toNatLE_take4 (bs : Bytes) (h : 4 ≤ bs.length) :
    toNatLE (bs.take 4) < 2 ^ 32 ∧ le32 (toNatLE (bs.take 4)) = bs.take 4 := by
  have hl4 : (bs.take 4).length = 4 := List.length_take_of_le h
  have h1 := toNatLE_lt (bs.take 4)
  have h2 := ofNatLE_toNatLE (bs.take 4)
  rw [hl4] at h1 h2
  exact ⟨by simpa using h1, h2⟩

end StarModel.Bytes

namespace StarModel.Outcome
variable {α β : Type}

/-- `h` is of the shape that evaluation (`decide`) settles -/
theorem exists_ok_of_any {o : Option (Outcome α)} (h : o.any isOk = true) :
    ∃ a, o = some (.ok a) := by
  match o, h with
  | some (.ok a), _ => exact ⟨a, rfl⟩

theorem map_ok_eq_iff {o : Option α} {g : α → β} {b : β} :
    o.map (fun a => Outcome.ok (g a)) = some (.ok b) ↔ ∃ a, o = some a ∧ b = g a := by
  cases o with
  | none => exact ⟨nofun, fun ⟨_, h, _⟩ => nomatch h⟩
  | some a =>
    exact ⟨fun h => ⟨a, rfl, (Outcome.ok.inj (Option.some.inj h)).symm⟩,
      fun ⟨_, h, e⟩ => by cases h; rw [e]; rfl⟩

/-- Serves `do` blocks, and model functions written with a nested
`match o with | .ok a => f a | .err k => .err k | .panic w => .panic w` once a lemma proved by
`cases o <;> rfl` (such as `Adss.recover_cons`) restates the match with `>>=`. -/
theorem bind_eq_ok {x : Outcome α} {f : α → Outcome β} {b : β} :
    (x >>= f) = .ok b ↔ ∃ a, x = .ok a ∧ f a = .ok b := by
  cases x <;> simp [Bind.bind, Outcome.bind]

theorem bind_ne_panic {x : Outcome α} {f : α → Outcome β} {w : String} (hx : x ≠ .panic w)
    (hf : ∀ a, x = .ok a → f a ≠ .panic w) : (x >>= f) ≠ .panic w := by
  cases x with
  | ok a => exact hf a rfl
  | err k => simp [Bind.bind, Outcome.bind]
  | panic w' => simpa [Bind.bind, Outcome.bind] using hx

end StarModel.Outcome
