/-
`send_enc` is a plain XOR with the duplex state, block by block, for every permutation `F`: the first block of
the ciphertext is `data ⊕ ks` for a keystream `ks` that depends only on the state the operation starts from
(`sendEnc_first_block`); two payloads with a common prefix of whole blocks have equal ciphertexts on it and
meet one and the same keystream on the block after it (`sendEnc_common_prefix`).
-/
import StarModel.Lemmas.Strobe

namespace StarModel.Strobe

theorem duplex_append (F : Perm) (m : Mode) (s : Strobe) (a b : Bytes) :
    duplex F m s (a ++ b) =
      ((duplex F m (duplex F m s a).1 b).1, (duplex F m s a).2 ++ (duplex F m (duplex F m s a).1 b).2) := by
  induction a generalizing s with
  | nil => rfl
  | cons x xs ih => simp only [List.cons_append, duplex]; rw [ih]

/-- XOR of `d` with the state bytes from position `pos` on -/
def xorKs (st : Bytes) : Nat → Bytes → Bytes
  | _, [] => []
  | pos, b :: bs => (st.getD pos 0 ^^^ b) :: xorKs st (pos + 1) bs

theorem xorKs_set_lt (st : Bytes) (i pos : Nat) (v : UInt8) (d : Bytes) (h : i < pos) :
    xorKs (st.set i v) pos d = xorKs st pos d := by
  induction d generalizing pos with
  | nil => rfl
  | cons b bs ih =>
    simp only [xorKs]
    rw [List.getD_eq_getElem?_getD, List.getElem?_set_ne (by omega), ← List.getD_eq_getElem?_getD,
      ih (pos + 1) (by omega)]

theorem duplex_absorbAndSet_block (F : Perm) (s : Strobe) (d : Bytes) (h : s.pos + d.length ≤ rate) :
    (duplex F mAbsorbAndSet s d).2 = xorKs s.st s.pos d := by
  induction d generalizing s with
  | nil => rfl
  | cons b bs ih =>
    rw [duplex, xorKs]
    refine congrArg (_ :: ·) ?_
    cases bs with
    | nil => rfl
    | cons b2 bs2 =>
      -- a further byte follows, so this one does not fill the block and `F` does not run
      have h' : s.pos + 1 + (b2 :: bs2).length ≤ rate := by rw [Nat.add_assoc, Nat.add_comm 1]; exact h
      have hlt : s.pos + 1 < rate := Nat.lt_of_le_of_lt (Nat.le_add_right _ bs2.length) h'
      rw [stepByte, if_neg (Nat.ne_of_lt hlt)]
      exact (ih _ h').trans (xorKs_set_lt _ _ _ _ _ (Nat.lt_succ_self _))

theorem xorKs_xor (st : Bytes) (pos : Nat) (d1 d2 : Bytes) :
    Bytes.xor (xorKs st pos d1) (xorKs st pos d2) = Bytes.xor d1 d2 := by
  induction d1 generalizing pos d2 with
  | nil => simp [xorKs, Bytes.xor]
  | cons a as ih =>
    cases d2 with
    | nil => simp [xorKs, Bytes.xor]
    | cons b bs =>
      simp only [xorKs, Bytes.xor, List.zipWith_cons_cons, List.cons.injEq]
      refine ⟨?_, ih (pos + 1) bs⟩
      rw [UInt8.xor_comm (st.getD pos 0) a, UInt8.xor_assoc,
        ← UInt8.xor_assoc (st.getD pos 0) (st.getD pos 0) b, UInt8.xor_self, UInt8.zero_xor]

theorem beginOp_force_pos (F : Perm) (s : Strobe) (fl : UInt8) : (beginOp F s fl true).pos = 0 := by
  unfold beginOp
  simp only [Bool.true_and]
  split
  · rfl
  · rename_i h; simpa using h

theorem dataPhase_pos (F : Perm) (s : Strobe) (recv : Bool) (base : UInt8) :
    (dataPhase F s recv base).pos = 0 :=
  beginOp_force_pos F _ _

theorem stepByte_pos (F : Perm) (m : Mode) (s : Strobe) (b : UInt8) (hs : s.pos < rate) :
    (stepByte F m s b).1.pos = (s.pos + 1) % rate := by
  unfold stepByte
  simp only
  split
  · next h => rw [h, Nat.mod_self]; rfl
  · next h => exact (Nat.mod_eq_of_lt (Nat.lt_of_le_of_ne hs h)).symm

theorem duplex_pos (F : Perm) (m : Mode) (s : Strobe) (d : Bytes) (hs : s.pos < rate) :
    (duplex F m s d).1.pos = (s.pos + d.length) % rate := by
  induction d generalizing s with
  | nil => exact (Nat.mod_eq_of_lt hs).symm
  | cons b bs ih =>
    rw [duplex, ih _ (stepByte_pos F m s b hs ▸ Nat.mod_lt _ (by decide)), stepByte_pos F m s b hs,
      Nat.mod_add_mod, List.length_cons, Nat.add_assoc, Nat.add_comm 1]

theorem duplex_take (F : Perm) (m : Mode) (s : Strobe) (d : Bytes) (n : Nat) :
    (duplex F m s d).2.take n = (duplex F m s (d.take n)).2 := by
  induction d generalizing s n with
  | nil => simp [duplex]
  | cons b bs ih => cases n with
    | zero => rfl
    | succ n => simp only [duplex, List.take_succ_cons, ih]

theorem duplex_first_block (F : Perm) (s0 : Strobe) (hpos : s0.pos = 0) (d : Bytes) :
    (duplex F mAbsorbAndSet s0 d).2.take rate = xorKs s0.st 0 (d.take rate) := by
  rw [duplex_take, duplex_absorbAndSet_block F s0 _ (by rw [hpos, List.length_take]; omega), hpos]

theorem sendEnc_first_block (F : Perm) (s : Strobe) (d : Bytes) :
    (sendEnc F s d).2.take rate = xorKs (dataPhase F s false 0x0E).st 0 (d.take rate) :=
  duplex_first_block F _ (dataPhase_pos F s false 0x0E) d

theorem sendEnc_common_prefix (F : Perm) (s : Strobe) (c d1 d2 : Bytes) (hc : c.length % rate = 0) :
    (sendEnc F s (c ++ d1)).2.take c.length = (sendEnc F s (c ++ d2)).2.take c.length ∧
    ∃ ks : Bytes,
      ((sendEnc F s (c ++ d1)).2.drop c.length).take rate = xorKs ks 0 (d1.take rate) ∧
      ((sendEnc F s (c ++ d2)).2.drop c.length).take rate = xorKs ks 0 (d2.take rate) := by
  rw [sendEnc_eq, sendEnc_eq]
  generalize hs0 : dataPhase F s false 0x0E = s0
  have hpos : s0.pos = 0 := hs0 ▸ dataPhase_pos F s false 0x0E
  have hlen : (duplex F mAbsorbAndSet s0 c).2.length = c.length := duplex_length F _ _ _
  -- after a whole number of blocks the next block starts at position 0 again
  have hpos' : (duplex F mAbsorbAndSet s0 c).1.pos = 0 := by
    rw [duplex_pos F _ _ _ (by rw [hpos]; decide), hpos, Nat.zero_add, hc]
  rw [duplex_append, duplex_append]
  simp only [List.take_left' hlen, List.drop_left' hlen]
  exact ⟨trivial, _, duplex_first_block F _ hpos' d1, duplex_first_block F _ hpos' d2⟩

end StarModel.Strobe
