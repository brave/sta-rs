/-
Pratt certificate for the share-field modulus taken from the Rust source (`Params.modulus`).
Every modular power is evaluated by the kernel; small primes by `norm_num`.
-/
import StarModel.Lemmas.PowMod

namespace StarModel.Fp

theorem prime_15664193 : Nat.Prime 15664193 :=
  lucas_of_factors _ 3 [(2, 6), (244753, 1)] (by decide +kernel) (by decide +kernel)
    ⟨by norm_num, by norm_num⟩ (by decide +kernel) (by decide +kernel)

theorem prime_83765619188099 : Nat.Prime 83765619188099 :=
  lucas_of_factors _ 2 [(2, 1), (2673793, 1), (15664193, 1)] (by decide +kernel) (by decide +kernel)
    ⟨by norm_num, by norm_num, prime_15664193⟩ (by decide +kernel) (by decide +kernel)

theorem prime_303232839737309 : Nat.Prime 303232839737309 :=
  lucas_of_factors _ 2 [(2, 2), (13, 1), (61, 1), (257, 1), (997, 1), (373091, 1)]
    (by decide +kernel) (by decide +kernel)
    ⟨by norm_num, by norm_num, by norm_num, by norm_num, by norm_num, by norm_num⟩
    (by decide +kernel) (by decide +kernel)

/-- `q = (p - 1) / 2`, the odd prime factor of `p - 1` (`pm1Factors`) -/
theorem prime_q : Nat.Prime 170141183460469231731687303715884111953 :=
  lucas_of_factors _ 3 [(2, 4), (31771, 1), (13177, 1), (83765619188099, 1), (303232839737309, 1)]
    (by decide +kernel) (by decide +kernel)
    ⟨by norm_num, by norm_num, by norm_num, prime_83765619188099, prime_303232839737309⟩
    (by decide +kernel) (by decide +kernel)

def pm1Factors : List (Nat × Nat) := [(2, 1), (170141183460469231731687303715884111953, 1)]

theorem pm1Factors_prod : (pm1Factors.map fun qe => qe.1 ^ qe.2).prod = p - 1 := by decide +kernel

theorem pm1Factors_prime : ∀ qe ∈ pm1Factors, qe.1.Prime :=
  List.forall_iff_forall_mem.1 (show pm1Factors.Forall _ from ⟨by norm_num, prime_q⟩)

/-- **The modulus configured in `sharks/src/share_ff.rs` is prime.** -/
theorem modulus_prime : Nat.Prime p := by
  apply lucas_of_factors p 2 pm1Factors (by decide +kernel) pm1Factors_prod
    (List.forall_iff_forall_mem.2 pm1Factors_prime)
  · decide +kernel
  · decide +kernel

instance : Fact (Nat.Prime p) := ⟨modulus_prime⟩

end StarModel.Fp
