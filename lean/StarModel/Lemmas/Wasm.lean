/-
The WASM string API (`StarModel.Wasm`): `split('\n')` is `List.splitOn`; the chunk decoder, the
chunk loop and `group_shares` never fail, so each is `.ok` of a function to `Option` (`decodeChunk_eq`,
`decodeChunks_eq`, `groupShares_eq`); encoded shares are put in at the last step (`groupShares_joined`).
`create_share` is characterised at the level of characters (`createShare_eq_some_iff`), which is how its
test vectors are compared.
-/
import StarModel.Wasm
import StarModel.Lemmas.Star
import StarModel.Lemmas.Base64

namespace StarModel.Wasm

theorem splitNL_eq_splitOn (cs : List Char) : splitNL cs = cs.splitOn '\n' := by
  induction cs with
  | nil => rfl
  | cons c cs ih =>
    obtain ⟨h, t, ht⟩ := List.exists_cons_of_ne_nil (List.splitOn_ne_nil '\n' cs)
    rw [splitNL, List.splitOn_cons_eq_if_modifyHead, ih, ht]
    simp

theorem splitNL_ne_nil (cs : List Char) : splitNL cs ≠ [] := by
  rw [splitNL_eq_splitOn]
  exact List.splitOn_ne_nil _ _

/-- what a chunk decodes to: `decodeChunk` and its callers are `.ok` of a function to `Option` -/
def chunkShare (c : List Char) : Option Adss.Share :=
  (Base64.decodeChars c).bind fun bs =>
    match Adss.Share.fromBytes bs with
    | .ok s => some s
    | _ => none

theorem chunkShare_eq_some_iff (c : List Char) (s : Adss.Share) :
    chunkShare c = some s ↔ ∃ bs, Base64.decodeChars c = some bs ∧ Adss.Share.fromBytes bs = .ok s := by
  rw [chunkShare, Option.bind_eq_some_iff]
  refine exists_congr fun bs => and_congr_right fun _ => ?_
  cases Adss.Share.fromBytes bs <;> simp

theorem decodeChunk_eq (c : List Char) : decodeChunk c = .ok (chunkShare c) := by
  rw [decodeChunk, chunkShare]
  cases Base64.decodeChars c with
  | none => rfl
  | some bs =>
    dsimp only [Option.bind_some]
    cases h : Adss.Share.fromBytes bs with
    | panic w => exact absurd h (Adss.fromBytes_not_panic bs w)
    | _ => rfl

theorem decodeChunk_not_err (c : List Char) (k : String) : decodeChunk c ≠ .err k := by
  rw [decodeChunk_eq]
  nofun

theorem decodeChunks_eq (cs : List (List Char)) : decodeChunks cs = .ok (cs.mapM chunkShare) := by
  induction cs with
  | nil => rfl
  | cons c cs ih =>
    rw [decodeChunks, decodeChunk_eq, ih, List.mapM_cons]
    cases chunkShare c with
    | none => rfl
    | some s => cases cs.mapM chunkShare <;> rfl

theorem mapM_eq_some_iff {α β : Type} (f : α → Option β) (l : List α) (r : List β) :
    l.mapM f = some r ↔ List.Forall₂ (fun a b => f a = some b) l r := by
  induction l generalizing r with
  | nil => simp [eq_comm]
  | cons a l ih =>
    simp only [List.mapM_cons, List.forall₂_cons_left_iff, bind, Option.bind_eq_some_iff, ih, pure,
      Option.some.injEq, exists_and_left, @eq_comm _ r]

/-- `group_shares` is total: a key text, or nothing -/
theorem groupShares_eq (F : Perm) (text epoch : String) :
    groupShares F text epoch = .ok (((splitNL text.toList).mapM chunkShare).bind fun shares =>
      match Star.shareRecover F shares with
      | .ok c => some (Base64.encode (Star.deriveSkeKey F c.M (epochBytes epoch)))
      | _ => none) := by
  rw [groupShares, decodeChunks_eq]
  cases (splitNL text.toList).mapM chunkShare with
  | none => rfl
  | some shares =>
    dsimp only [Option.bind_some]
    cases h : Star.shareRecover F shares with
    | panic w => exact absurd h (Adss.recover_not_panic F shares w)
    | _ => rfl

/-- `xs = []` included: the empty text is one undecodable chunk, and `share_recover` refuses the empty
collection -/
theorem groupShares_joined {ι : Type} (F : Perm) (xs : List ι) (share : ι → Adss.Share)
    (hv : ∀ x ∈ xs, Adss.Share.fromBytes (share x).toBytes = .ok (share x)) (epoch : String) :
    groupShares F ("\n".intercalate (xs.map fun x => Base64.encode (share x).toBytes)) epoch =
      .ok (match Star.shareRecover F (xs.map share) with
        | .ok c => some (Base64.encode (Star.deriveSkeKey F c.M (epochBytes epoch)))
        | _ => none) := by
  rw [groupShares_eq]
  cases xs with
  | nil => rfl
  | cons x l =>
    have hj : ("\n".intercalate ((x :: l).map fun x => Base64.encode (share x).toBytes)).toList =
        List.intercalate ['\n'] ((x :: l).map fun x => Base64.encodeChars (share x).toBytes) := by
      rw [String.toList_intercalate, List.map_map]
      simp only [Function.comp_def, Base64.encode, String.toList_ofList]
      rfl
    rw [hj, splitNL_eq_splitOn, List.splitOn_intercalate _ (fun l hl => by
        obtain ⟨s, _, rfl⟩ := List.mem_map.mp hl
        exact Base64.Sym.encodeChars_no_newline _) (by simp),
      (mapM_eq_some_iff _ _ ((x :: l).map share)).mpr (by
        rw [List.forall₂_map_left_iff, List.forall₂_map_right_iff, List.forall₂_same]
        exact fun y hy => (chunkShare_eq_some_iff _ _).mpr ⟨_, Base64.decodeChars_encodeChars _, hv y hy⟩)]
    rfl

theorem formatJson_ne_empty (k s t : String) : formatJson k s t ≠ "" := fun h => by
  simpa [formatJson, String.length_append] using congrArg String.length h

/-! The kernel pays for a `String` by the square of its length (`String.ofList`, `String.toList`, `++`
and `=` all go through the UTF-8 byte array), so a test vector is compared as a `List Char`. -/

/-- the characters of `formatJson` -/
def jsonChars (k s t : List Char) : List Char :=
  "{\"key\": \"".toList ++ k ++ "\", \"share\": \"".toList ++ s ++ "\", \"tag\": \"".toList ++ t ++
    "\"}".toList

def createShareChars (F : Perm) (fuel : Nat) (m : Bytes) (t : Nat) (epoch : String) (x : Nat) :
    Option (List Char) :=
  match Star.shareWithLocalRandomness F fuel m (epochBytes epoch) t x with
  | some (.ok (key, share, tag)) =>
    some (jsonChars (Base64.encodeChars key) (Base64.encodeChars share.toBytes) (Base64.encodeChars tag))
  | some (.err _) => some []
  | _ => none

theorem createShare_eq_some_iff (F : Perm) (fuel : Nat) (m : Bytes) (t : Nat) (epoch : String) (x : Nat)
    (s : String) :
    createShare F fuel m t epoch x = some s ↔ createShareChars F fuel m t epoch x = some s.toList := by
  unfold createShare createShareOutcome createShareChars formatJson jsonChars Base64.encode
  rcases Star.shareWithLocalRandomness F fuel m (epochBytes epoch) t x with _ | ⟨_, _, _⟩ | _ | _ <;>
    simp only [Option.some.injEq, reduceCtorEq, ← String.toList_inj (s₂ := s), String.toList_append,
      String.toList_ofList, String.toList_empty]

theorem byteArray_toList_loop (bs : ByteArray) (i : Nat) (r : List UInt8) :
    ByteArray.toList.loop bs i r = r.reverse ++ bs.data.toList.drop i := by
  fun_induction ByteArray.toList.loop bs i r with
  | case1 i r h ih =>
    rw [ih, List.drop_eq_getElem_cons (i := i) h, List.reverse_cons, List.append_assoc, Array.getElem_toList,
      ← getElem!_pos bs.data i h]
    rfl -- `bs.get! i` is `bs.data[i]!` by definition
  | case2 i r h => rw [List.drop_of_length_le (Nat.le_of_not_lt h), List.append_nil]

theorem epochBytes_injective (a b : String) (h : epochBytes a = epochBytes b) : a = b := by
  simp only [epochBytes, Bytes.ofString, ByteArray.toList, byteArray_toList_loop, List.reverse_nil,
    List.nil_append, List.drop_zero, Array.toList_inj] at h
  exact String.toByteArray_inj.mp (ByteArray.ext h)

end StarModel.Wasm
