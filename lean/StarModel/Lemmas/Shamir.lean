/-
Shamir over ZMod p: Horner evaluation is polynomial evaluation; the code's Lagrange formula at
zero recovers the constant term (via Mathlib's `Lagrange.interpolate`).
-/
import StarModel.Sharks
import StarModel.Lemmas.Field
import Mathlib.LinearAlgebra.Lagrange

open Polynomial

namespace StarModel.Sharks

abbrev K := ZMod Fp.p

/-- the polynomial with coefficient list `cs`, highest degree first -/
noncomputable def polyOf (cs : List Nat) : K[X] :=
  cs.foldl (fun (acc : K[X]) (c : Nat) => acc * X + C (c : K)) 0

theorem polyOf_append (cs : List Nat) (c : Nat) : polyOf (cs ++ [c]) = polyOf cs * X + C (c : K) := by
  unfold polyOf; rw [List.foldl_append]; rfl

theorem evalPoly_append (cs : List Nat) (c x : Nat) :
    evalPoly (cs ++ [c]) x = Fp.add (Fp.mul (evalPoly cs x) x) c := by
  unfold evalPoly; rw [List.foldl_append]; rfl

theorem evalPoly_cast (cs : List Nat) (x : Nat) : ((evalPoly cs x : Nat) : K) = (polyOf cs).eval (x : K) := by
  induction cs using List.reverseRecOn with
  | nil => simp [evalPoly, polyOf]
  | append_singleton cs c ih =>
    rw [evalPoly_append, polyOf_append, Fp.add_cast, Fp.mul_cast, ih, eval_add, eval_mul, eval_X, eval_C]

theorem polyOf_degree_lt (cs : List Nat) : (polyOf cs).degree < cs.length := by
  induction cs using List.reverseRecOn with
  | nil => exact degree_zero.trans_lt (WithBot.bot_lt_coe 0)
  | append_singleton cs c ih =>
    rw [degree_lt_iff_coeff_zero] at ih ⊢
    intro m hm
    rw [List.length_append, List.length_singleton] at hm
    obtain ⟨m, rfl⟩ := Nat.exists_eq_succ_of_ne_zero (Nat.ne_zero_of_lt hm)
    rw [polyOf_append, coeff_add, coeff_mul_X, coeff_C_succ, add_zero]
    exact ih m (Nat.le_of_succ_le_succ hm)

theorem polyOf_eval_zero (cs : List Nat) (s : Nat) : (polyOf (cs ++ [s])).eval 0 = (s : K) := by
  rw [polyOf_append]; simp

/-- Lagrange interpolation at zero, in the shape `Sharks.weight` and `Sharks.interpolate` compute it -/
theorem lagrange_zero {ι : Type} [DecidableEq ι] (s : Finset ι) (v : ι → K) (hv : Set.InjOn v s)
    (f : K[X]) (hdeg : f.degree < s.card) :
    f.eval 0 = ∑ i ∈ s, (∏ j ∈ s.erase i, v j * (v j - v i)⁻¹) * f.eval (v i) := by
  conv_lhs => rw [Lagrange.eq_interpolate hv hdeg]
  rw [Lagrange.interpolate_apply, eval_finsetSum]
  refine Finset.sum_congr rfl fun i _ => ?_
  rw [eval_mul, eval_C, mul_comm, Lagrange.basis, eval_prod]
  refine congrArg (· * _) (Finset.prod_congr rfl fun j _ => ?_)
  rw [Lagrange.basisDivisor, eval_mul, eval_C, eval_sub, eval_X, eval_C, zero_sub, ← neg_sub (v j), inv_neg,
    neg_mul_neg, mul_comm]

end StarModel.Sharks
