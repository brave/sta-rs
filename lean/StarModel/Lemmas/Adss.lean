/-
ADSS: what `Commune::share` deals, and `recover` on collections of shares — for every `F`.
-/
import StarModel.Lemmas.Strobe
import StarModel.Lemmas.Dealer

namespace StarModel.Adss
open StarModel.Sharks

/-- the MAC `J` that `Commune::share` emits for transcript `T` and `(threshold, M, R)` -/
def macOf (F : Perm) (T : Option Strobe) (thr : Nat) (M R : Bytes) : Bytes :=
  (Strobe.sendMac F (macTranscript F T thr M R) Params.macLength).2

/-- the 16-byte key `K` -/
def keyOf (F : Perm) (T : Option Strobe) (thr : Nat) (M R : Bytes) : Bytes :=
  (Strobe.prf F (Strobe.sendMac F (macTranscript F T thr M R) Params.macLength).1 Params.adssKeyLen).2

theorem keyOf_length (F : Perm) (T) (thr : Nat) (M R : Bytes) : (keyOf F T thr M R).length = 16 := by
  unfold keyOf; rw [Strobe.prf_length]; rfl

theorem macOf_length (F : Perm) (T) (thr : Nat) (M R : Bytes) : (macOf F T thr M R).length = 64 := by
  unfold macOf; rw [Strobe.sendMac_length]; rfl

theorem key_chunk_canonical (K : Bytes) (hK : K.length = 16) :
    Fp.fromRepr (K ++ Bytes.zeros 8) = some (Bytes.toNatLE K) := by
  have hlt : Bytes.toNatLE K < 256 ^ 16 := hK ▸ Bytes.toNatLE_lt K
  have hp : (256 : Nat) ^ 16 < Fp.p := by decide +kernel
  rw [Fp.fromRepr_eq_some_iff, Bytes.toNatLE_append_zeros, List.length_append, hK]
  exact ⟨rfl, Nat.lt_trans hlt hp, rfl⟩

/-- the padded key is one 24-byte chunk (and 8 bytes that `dealer_rng` ignores) -/
theorem chunks_kvec (K : Bytes) (hK : K.length = 16) :
    chunks Params.fieldElementLen ((K ++ Bytes.zeros Params.adssKeyPadLen).length / Params.fieldElementLen)
      (K ++ Bytes.zeros Params.adssKeyPadLen) = [K ++ Bytes.zeros 8] := by
  have hl : (K ++ Bytes.zeros Params.adssKeyPadLen).length = 32 := by rw [List.length_append, hK]; rfl
  rw [hl]
  show [((K ++ Bytes.zeros 16).drop 0).take 24] = _
  rw [List.drop_zero, List.take_append, hK, List.take_of_length_le (by rw [hK]; decide)]
  rfl

/-- the transcript RNG `L` that `Commune::share` samples the polynomial from -/
def rngOf (F : Perm) (T : Option Strobe) (thr : Nat) (M R : Bytes) : StrobeRng :=
  ⟨(Strobe.prf F (Strobe.sendMac F (macTranscript F T thr M R) Params.macLength).1 Params.adssKeyLen).1⟩

/-- the `thr - 1` coefficients `Commune::share` draws; `none` = sampling fuel exhausted. This is the
only way a sharing can fail, and the only part of it that is not a closed formula. -/
def coeffs (F : Perm) (fuel : Nat) (T : Option Strobe) (thr : Nat) (M R : Bytes) : Option (List Nat) :=
  (drawFp (rngNext F) fuel (thr - 1) (rngOf F T thr M R)).map (·.2)

/-- what `Commune::share` computes once the coefficients `cs` are drawn -/
def dealtOf (F : Perm) (T : Option Strobe) (thr : Nat) (M R : Bytes) (cs : List Nat) : Dealt where
  J := macOf F T thr M R
  K := keyOf F T thr M R
  C := (Strobe.sendEnc F (encKey F (keyOf F T thr M R)) M).2
  D := (Strobe.sendEnc F (Strobe.sendEnc F (encKey F (keyOf F T thr M R)) M).1 R).2
  polys := [cs ++ [Bytes.toNatLE (keyOf F T thr M R)]]

/-- the share of dealing `d` at point `x` -/
abbrev Dealt.shareAt (d : Dealt) (thr x : Nat) : Share := ⟨thr, evaluate d.polys x, d.C, d.D, d.J⟩

theorem coeffs_spec {F : Perm} {fuel : Nat} {T : Option Strobe} {thr : Nat} {M R : Bytes} {cs : List Nat}
    (h : coeffs F fuel T thr M R = some cs) : cs.length = thr - 1 ∧ ∀ c ∈ cs, c < Fp.p := by
  obtain ⟨⟨g, _⟩, hd, rfl⟩ := Option.map_eq_some_iff.mp h
  exact drawFp_spec _ _ _ _ _ _ hd

theorem deal_eq (F : Perm) (fuel : Nat) (T : Option Strobe) (thr : Nat) (M R : Bytes) :
    deal F fuel T thr M R = (coeffs F fuel T thr M R).map fun cs => .ok (dealtOf F T thr M R cs) := by
  have hK := keyOf_length F T thr M R
  rw [deal, dealerRng, coeffs, rngOf, ← keyOf, chunks_kvec _ hK,
    dealPolys_singleton _ _ _ _ _ _ (key_chunk_canonical _ hK)]
  cases drawFp (rngNext F) fuel (thr - 1) _ <;> rfl

theorem deal_ok_iff {F : Perm} {fuel : Nat} {T : Option Strobe} {thr : Nat} {M R : Bytes} {d : Dealt} :
    deal F fuel T thr M R = some (.ok d) ↔
      ∃ cs, coeffs F fuel T thr M R = some cs ∧ d = dealtOf F T thr M R cs := by
  rw [deal_eq]; exact Outcome.map_ok_eq_iff

theorem share_eq (F : Perm) (fuel : Nat) (T : Option Strobe) (thr : Nat) (M R : Bytes) (x : Nat) :
    share F fuel T thr M R x =
      (coeffs F fuel T thr M R).map fun cs => .ok ((dealtOf F T thr M R cs).shareAt thr x) := by
  rw [share, deal_eq]
  cases coeffs F fuel T thr M R <;> rfl

theorem share_ok_iff {F : Perm} {fuel : Nat} {T : Option Strobe} {thr : Nat} {M R : Bytes} {x : Nat}
    {sh : Share} :
    share F fuel T thr M R x = some (.ok sh) ↔
      ∃ cs, coeffs F fuel T thr M R = some cs ∧ sh = (dealtOf F T thr M R cs).shareAt thr x := by
  rw [share_eq]; exact Outcome.map_ok_eq_iff

theorem dealtOf_dealt (F : Perm) (T : Option Strobe) {thr : Nat} (ht : 1 ≤ thr) (M R : Bytes) {cs : List Nat}
    (hcs : cs.length = thr - 1) :
    Sharks.Dealt thr (dealtOf F T thr M R cs).polys ∧
      secretOf (dealtOf F T thr M R cs).polys = keyOf F T thr M R ++ Bytes.zeros 8 := by
  obtain ⟨hlt, hto⟩ := (Fp.fromRepr_iff _ _).mp (key_chunk_canonical _ (keyOf_length F T thr M R))
  refine ⟨List.forall_mem_singleton.mpr ⟨?_, cs, _, rfl, hlt⟩, ?_⟩
  · rw [List.length_append, hcs, List.length_singleton, Nat.sub_add_cancel ht]
  · rw [secretOf, dealtOf, List.map_singleton, List.flatten_singleton, List.getLastD_concat, hto]

theorem macTranscript_mirror (F : Perm) (thr : Nat) (M R : Bytes) :
    Strobe.Mirror (macTranscript F none thr M R) (macTranscript F none thr M R) :=
  Strobe.Mirror.refl_of_none _ (by
    unfold macTranscript
    rw [Strobe.key_isReceiver, Strobe.ad_isReceiver, Strobe.ad_isReceiver]
    exact Strobe.new_isReceiver F _)

/-- the key the transcript derives after a MAC of `n` bytes -/
def keyAfterMac (F : Perm) (thr : Nat) (M R : Bytes) (n : Nat) : Bytes :=
  (Strobe.prf F (Strobe.sendMac F (macTranscript F none thr M R) n).1 Params.adssKeyLen).2

theorem keyAfterMac_macLength (F : Perm) (thr : Nat) (M R : Bytes) :
    keyAfterMac F thr M R Params.macLength = keyOf F none thr M R := rfl

theorem verify_iff (F : Perm) (c : Commune) (J K : Bytes) :
    verify F c J K = true ↔
      J = (Strobe.sendMac F (macTranscript F none c.thr c.M c.R) J.length).2 ∧
      K = keyAfterMac F c.thr c.M c.R J.length := by
  have hmt := macTranscript_mirror F c.thr c.M c.R
  have hiff := Strobe.recvMac_iff F _ _ hmt J
  unfold verify
  simp only
  by_cases hv : (Strobe.recvMac F (macTranscript F none c.thr c.M c.R) J).2 = true
  · rw [if_pos hv, Strobe.recvMac_state F _ _ hmt J hv, Strobe.prf_withRecv]
    simp only [beq_iff_eq]
    exact ⟨fun h => ⟨hiff.mp hv, h.symm⟩, fun h => h.2.symm⟩
  · rw [if_neg hv]
    exact ⟨nofun, fun h => absurd (hiff.mpr h.1) hv⟩

/-- the commune `recover` reads off the FIRST share with the interpolated key `K` -/
def opened (F : Perm) (s0 : Share) (K : Bytes) : Commune :=
  ⟨s0.thr, (Strobe.recvEnc F (encKey F K) s0.C).2,
    (Strobe.recvEnc F (Strobe.recvEnc F (encKey F K) s0.C).1 s0.D).2⟩

/-- The model's nested `match` on `Outcome` restated with `>>=`, which `Outcome.bind_eq_ok` and
`Outcome.bind_ne_panic` invert; what is proved about `recover` on a non-empty collection is derived from
this equation. -/
theorem recover_cons (F : Perm) (s0 : Share) (rest : List Share) :
    recover F (s0 :: rest) =
      Sharks.recover s0.thr ((s0 :: rest).map (·.S)) >>= fun key =>
      if key.length < Params.adssKeyLen then .err "short key"
      else if verify F (opened F s0 (key.take Params.adssKeyLen)) s0.J (key.take Params.adssKeyLen)
      then .ok (opened F s0 (key.take Params.adssKeyLen)) else .err "mac" := by
  unfold recover
  simp only
  cases Sharks.recover s0.thr ((s0 :: rest).map (·.S)) <;> rfl

/-- `recover` decided on a collection whose Shamir parts are points `xs` (at least `thr` distinct) of the
dealing of `(thr, M, R)` and whose FIRST share carries that dealing's threshold, `C` and `D` but ANY
64-byte tag: it accepts iff the tag is the dealing's MAC. (The length of the tag matters because `verify`
squeezes the key after a MAC of that many bytes: `keyAfterMac`.) -/
theorem recover_dealt (F : Perm) {thr : Nat} (ht : 1 ≤ thr) (M R : Bytes) {cs : List Nat}
    (hcs : cs.length = thr - 1) (s0 : Share) (rest : List Share) (xs : List Nat) (hx : ∀ x ∈ xs, x < Fp.p)
    (hc : thr ≤ xs.toFinset.card)
    (hS : (s0 :: rest).map (·.S) = xs.map (evaluate (dealtOf F none thr M R cs).polys))
    (hthr : s0.thr = thr) (hC : s0.C = (dealtOf F none thr M R cs).C)
    (hD : s0.D = (dealtOf F none thr M R cs).D) (hJ : s0.J.length = 64) :
    recover F (s0 :: rest) = if s0.J = macOf F none thr M R then .ok ⟨thr, M, R⟩ else .err "mac" := by
  obtain ⟨hdealt, hsec⟩ := dealtOf_dealt F none ht M R hcs
  have hKl := keyOf_length F none thr M R
  have htake : (keyOf F none thr M R ++ Bytes.zeros 8).take Params.adssKeyLen = keyOf F none thr M R :=
    List.take_left' hKl
  have hlen : ¬ (keyOf F none thr M R ++ Bytes.zeros 8).length < Params.adssKeyLen := by
    rw [List.length_append, hKl]; decide
  have hmir : Strobe.Mirror (encKey F (keyOf F none thr M R)) (encKey F (keyOf F none thr M R)) :=
    Strobe.Mirror.key_new F _ _
  obtain ⟨hM, hmir2⟩ := Strobe.recvEnc_sendEnc F _ _ hmir M
  obtain ⟨hR, _⟩ := Strobe.recvEnc_sendEnc F _ _ hmir2 R
  rw [recover_cons, hS, hthr, recover_evaluate thr ht _ hdealt xs hx, if_pos hc, hsec]
  simp only [Bind.bind, Outcome.bind, if_neg hlen, opened, htake, hC, hD, dealtOf, hM, hR, verify_iff, hJ, hthr]
  exact if_congr (and_iff_left (keyAfterMac_macLength F thr M R).symm) rfl rfl

theorem recover_honest (F : Perm) {thr : Nat} (ht : 1 ≤ thr) (M R : Bytes) {cs : List Nat}
    (hcs : cs.length = thr - 1) (xs : List Nat) (hx : ∀ x ∈ xs, x < Fp.p) (hc : thr ≤ xs.toFinset.card) :
    recover F (xs.map ((dealtOf F none thr M R cs).shareAt thr)) = .ok ⟨thr, M, R⟩ := by
  cases xs with
  | nil => simp at hc; omega
  | cons x0 xr =>
    rw [List.map_cons, recover_dealt F ht M R hcs _ _ (x0 :: xr) hx hc (by simp [List.map_map, Function.comp_def])
      rfl rfl rfl (macOf_length F none thr M R)]
    exact if_pos rfl

theorem recover_ok_count (F : Perm) (s0 : Share) (rest : List Share) (c : Commune)
    (h : recover F (s0 :: rest) = .ok c) :
    1 ≤ s0.thr ∧ s0.thr ≤ ((s0 :: rest).map (·.S.x)).toFinset.card := by
  rw [recover_cons, Outcome.bind_eq_ok] at h
  obtain ⟨key, hk, _⟩ := h
  have := Sharks.recover_ok_count _ _ _ hk
  rwa [List.map_map] at this

theorem recover_not_panic (F : Perm) (shares : List Share) (w : String) : recover F shares ≠ .panic w := by
  cases shares with
  | nil => simp [recover]
  | cons s0 rest =>
    rw [recover_cons]
    refine Outcome.bind_ne_panic (Sharks.recover_not_panic _ _ _) (fun key _ => ?_)
    split
    · simp
    · split <;> simp

end StarModel.Adss
