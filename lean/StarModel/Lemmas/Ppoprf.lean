/-
PPOPRF over an abstract prime-order group: `Lawful`, the laws a group dictionary is assumed to satisfy
(the blinding algebra of C12, DLEQ completeness and the injectivity of the challenge transcript in C13
rest on it; special soundness does not); what `Server::eval` computes; `compute_composites` in bind
form; the DLEQ routines on a batch of one element return a value (C09). `S = ZMod ℓ` with `ℓ` prime
(Lemmas/Scalar.lean).
-/
import StarModel.Ppoprf
import StarModel.Lemmas.Bytes
import StarModel.Lemmas.Scalar
import StarModel.Lemmas.Strobe

namespace StarModel.Ppoprf
open StarModel.Scalar25519

/-- the group dictionary implements a vector space over the prime field of scalars with a
canonical, injective, 32-byte encoding (what ristretto255 is specified to be) -/
structure Lawful {G : Type} [AddCommGroup G] [Module S G] (ops : GroupOps G) : Prop where
  add_eq : ∀ a b, ops.add a b = a + b
  neg_eq : ∀ a, ops.neg a = -a
  smul_eq : ∀ (k : Nat) (P : G), ops.smul k P = (k : S) • P
  identity_eq : ops.identity = 0
  decompress_compress : ∀ P, ops.decompress (ops.compress P) = some P
  compress_decompress : ∀ bs P, ops.decompress bs = some P → ops.compress P = bs
  compress_length : ∀ P, (ops.compress P).length = 32

variable {G : Type} [AddCommGroup G] [Module S G] {ops : GroupOps G}

theorem Lawful.compress_injective (h : Lawful ops) {P Q : G} (e : ops.compress P = ops.compress Q) :
    P = Q := by
  have := h.decompress_compress P
  rw [e, h.decompress_compress Q] at this
  injection this with this; exact this.symm

@[simp] theorem bind_ok {α β : Type} (a : α) (f : α → Outcome β) : (Outcome.ok a >>= f) = f a := rfl
@[simp] theorem bind_err {α β : Type} (k : String) (f : α → Outcome β) : (Outcome.err k >>= f) = .err k := rfl
@[simp] theorem bind_panic {α β : Type} (w : String) (f : α → Outcome β) : (Outcome.panic w >>= f) = .panic w := rfl
@[simp] theorem pure_eq {α : Type} (a : α) : (pure a : Outcome α) = .ok a := rfl

omit [AddCommGroup G] [Module S G]

/-- the point `Server::eval` returns for tagged key `oprfKey + ts` -/
def evalPoint (ops : GroupOps G) (oprfKey ts : Nat) (pt : G) : G :=
  ops.smul (invert (Scalar25519.add oprfKey ts)) pt

theorem evalPoint_eq [AddCommGroup G] [Module S G] (hl : Lawful ops) (k ts : Nat) (P : G) :
    evalPoint ops k ts P = ((k : S) + (ts : S))⁻¹ • P := by
  rw [evalPoint, hl.smul_eq, invert_cast, add_cast]

theorem eval_verifiable_false (F : Perm) (srv : Server) (pb : Bytes) (md : UInt8) (n : Nat) :
    Server.eval ops F srv pb md false n =
      match ops.decompress pb with
      | none => .err "BadPointEncoding"
      | some pt =>
        if (srv.publicKey.get md).isNone then .err "BadTag"
        else tagScalar F srv.prgKey0 srv.prgKey1 srv.ggm md >>= fun ts =>
          pure (ops.compress (evalPoint ops srv.oprfKey ts pt), none) := rfl

theorem eval_nonverifiable (F : Perm) (srv : Server) (pb : Bytes) (md : UInt8) (n : Nat) (pt : G) (ts : Nat)
    (hd : ops.decompress pb = some pt) (hreg : (srv.publicKey.get md).isSome = true)
    (hts : tagScalar F srv.prgKey0 srv.prgKey1 srv.ggm md = .ok ts) :
    Server.eval ops F srv pb md false n = .ok (ops.compress (evalPoint ops srv.oprfKey ts pt), none) := by
  rw [eval_verifiable_false, hd]
  simp only [hts, Option.isNone_eq_false_iff.2 hreg]
  rfl

theorem eval_ok (F : Perm) (srv : Server) (pb : Bytes) (md : UInt8) (v : Bool) (n : Nat)
    (out : Bytes) (pr : Option (Nat × Nat)) (h : Server.eval ops F srv pb md v n = .ok (out, pr)) :
    ∃ pt ts, ops.decompress pb = some pt ∧ (srv.publicKey.get md).isSome = true ∧
      tagScalar F srv.prgKey0 srv.prgKey1 srv.ggm md = .ok ts ∧
      out = ops.compress (evalPoint ops srv.oprfKey ts pt) := by
  unfold Server.eval at h
  split at h
  · cases h
  · rename_i pt hd
    split at h
    · cases h
    · rename_i hn
      obtain ⟨ts, hts, h⟩ := Outcome.bind_eq_ok.1 h
      refine ⟨pt, ts, hd, by simpa [Option.isSome_iff_ne_none] using hn, hts, ?_⟩
      -- both branches end in `pure (compress evalPoint, _)`
      cases v with
      | false => cases h; rfl
      | true =>
        obtain ⟨_, _, h⟩ := Outcome.bind_eq_ok.1 h
        obtain ⟨_, _, h⟩ := Outcome.bind_eq_ok.1 h
        obtain ⟨_, _, h⟩ := Outcome.bind_eq_ok.1 h
        cases h; rfl

theorem computeComposites_eq (F : Perm) (key : Option Nat) (b : G) (cs ds : List G) :
    computeComposites ops F key b cs ds =
      if cs.length ≠ ds.length then .panic "C and D have a different number of elements!"
      else seedTranscript ops b >>= fun st =>
        compositesLoop ops F key.isNone (strobeHash F st Params.dleqSeedLabel) 0 cs ds ops.identity
          ops.identity >>= fun mz =>
            pure (mz.1, match key with | some k => ops.smul k mz.1 | none => mz.2) := by
  unfold computeComposites
  split
  · rfl
  · cases seedTranscript ops b <;> try rfl
    simp only [bind_ok]
    cases compositesLoop ops F key.isNone _ 0 cs ds ops.identity ops.identity <;> try rfl
    cases key <;> rfl

theorem i2osp2_small (n : Nat) (h : n < 65536) : i2osp2 n = .ok (Bytes.be16 n) := by
  unfold i2osp2; rw [if_pos h]

theorem contextString_small : contextString.length < 65536 := by decide +kernel

theorem seedTranscript_eq (b : G) : seedTranscript ops b =
    .ok (Bytes.be16 32 ++ ops.compress b ++ Bytes.be16 contextString.length ++ contextString) := by
  unfold seedTranscript
  rw [i2osp2_small _ (by decide), i2osp2_small _ contextString_small]
  rfl

theorem strobeHash_length (F : Perm) (input : Bytes) (label : String) :
    (strobeHash F input label).length = 64 := by
  unfold strobeHash; simp only; rw [StrobeRng.fillBytes_length]; rfl

theorem challengeTranscript_eq (pv m z t2 t3 : G) : challengeTranscript ops pv m z t2 t3 =
    .ok (Bytes.be16 32 ++ ops.compress pv ++ Bytes.be16 32 ++ ops.compress m ++ Bytes.be16 32 ++ ops.compress z ++
      Bytes.be16 32 ++ ops.compress t2 ++ Bytes.be16 32 ++ ops.compress t3) := rfl

theorem computeComposites_single (F : Perm) (key : Option Nat) (b c d : G) :
    ∃ m z, computeComposites ops F key b [c] [d] = .ok (m, z) := by
  rw [computeComposites_eq, if_neg (by simp), seedTranscript_eq, bind_ok, compositesLoop, compositeTranscript,
    strobeHash_length, i2osp2_small _ (by decide), i2osp2_small _ (by decide), i2osp2_small _ (by decide)]
  exact ⟨_, _, rfl⟩

theorem newBatch_single (F : Perm) (key : Nat) (pv c d : G) (r : Nat) :
    ∃ p, newBatch ops F key pv [c] [d] r = .ok p := by
  obtain ⟨m, z, h⟩ := computeComposites_single (ops := ops) F (some key) pv c d
  rw [newBatch, h]
  simp only [bind_ok, challengeTranscript_eq]
  exact ⟨_, rfl⟩

theorem verifyBatch_single (F : Perm) (cc s : Nat) (pv c d : G) :
    ∃ b, verifyBatch ops F cc s pv [c] [d] = .ok b := by
  obtain ⟨m, z, h⟩ := computeComposites_single (ops := ops) F none pv c d
  rw [verifyBatch, h]
  simp only [bind_ok, challengeTranscript_eq]
  exact ⟨_, rfl⟩

theorem getCombinedPkValue_cases (pk : PublicKey) (md : UInt8) :
    (∃ k, getCombinedPkValue ops pk md = .err k) ∨
      ∃ P, getCombinedPkValue ops pk md = .ok (ops.compress P) := by
  unfold getCombinedPkValue
  split
  · exact .inl ⟨_, rfl⟩
  split
  · exact .inl ⟨_, rfl⟩
  split
  · exact .inl ⟨_, rfl⟩
  · exact .inr ⟨_, rfl⟩

end StarModel.Ppoprf
