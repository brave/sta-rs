/-
Source-structure obligations. `tools/extract_params.py` extracts, on every run, the ordered list of
STROBE constructor / method calls (with their first argument) of every function of /repo that
builds a transcript, and the argument lists of the three `strobe_digest` call sites. The theorems
below state that these are the sequences the hand-written model was transcribed from:

  Adss.macTranscript / Adss.deal     ↔  skelAdssShare, skelAdssVerify
  Adss.recover                       ↔  skelAdssRecover
  Star.strobeDigest / encrypt / decrypt ↔ skelStarDigest, skelStarEncrypt, skelStarDecrypt
  StrobeRng.fillBytes                ↔  skelRngFill (three identical copies)
  Ggm.prgSetup / prgEval             ↔  skelGgmPrgSetup, skelGgmPrgEval
  Ppoprf.strobeHash                  ↔  skelPpoprfHash
  Star.localOps / deriveOps / skeOps ↔  callSampleLocal, callDeriveRandoms, callDeriveSkeKey

A reordered, dropped, merged, re-labelled or streamed (`more = true`) operation in the source makes one of
these fail to check, independently of the byte-level correspondence.
-/
import StarModel.Params

namespace StarModel.Skeleton
open StarModel.Params

theorem adss_share : skelAdssShare =
    ["new(adss)", "ad(self.A.to_bytes())", "ad(self.M)", "key(self.R)", "send_mac(_)", "prf(_)",
     "new(adss encrypt)", "key(_)", "send_enc(_)", "send_enc(_)"] := rfl

theorem adss_verify : skelAdssVerify =
    ["new(adss)", "ad(self.A.to_bytes())", "ad(self.M)", "key(self.R)", "recv_mac(_)", "prf(_)"] := rfl

/-- sharing and verification absorb the same fields in the same order -/
theorem adss_verify_matches_share : skelAdssVerify.take 4 = skelAdssShare.take 4 := rfl

/-- ... and after the MAC both derive the key with the same operation -/
theorem adss_verify_key_matches_share : skelAdssVerify.drop 5 = (skelAdssShare.drop 5).take 1 := rfl

theorem adss_recover : skelAdssRecover = ["new(adss encrypt)", "key(_)", "recv_enc(_)", "recv_enc(_)"] := rfl

theorem star_digest : skelStarDigest = ["new(<label>)", "key(_)", "ad(_)"] := rfl
theorem star_encrypt : skelStarEncrypt = ["new(<label>)", "key(_)", "send_enc(_)"] := rfl
theorem star_decrypt : skelStarDecrypt = ["new(<label>)", "key(_)", "recv_enc(_)"] := rfl

theorem rng_fill : skelRngFill = ["meta_ad(_)", "prf(_)"] ∧ skelRngFillAdss = skelRngFill ∧
    skelRngFillPpoprf = skelRngFill := ⟨rfl, rfl, rfl⟩

theorem ggm_prg : skelGgmPrgSetup = ["new(ggm key gen (ppoprf))", "key(sample_secret())"] ∧
    skelGgmPrgEval = ["new(ggm eval (ppoprf))", "key(self.key)", "ad(_)"] := ⟨rfl, rfl⟩

theorem ppoprf_hash : skelPpoprfHash = ["new(<label>)", "key(_)"] := rfl

/-- the three uses of `strobe_digest`: measurement keyed, epoch and threshold as two separate
associated-data operations; the index as one byte; `r₁` keyed with the epoch as associated data -/
theorem digest_calls :
    callSampleLocal = ["self.x.as_slice()", "self.epoch", "self.threshold.to_le_bytes()", "label:star_sample_local"] ∧
    callDeriveRandoms = ["randomness", "[iasu8]", "label:star_derive_randoms"] ∧
    callDeriveSkeKey = ["r1", "epoch", "label:star_derive_ske_key"] := ⟨rfl, rfl, rfl⟩

theorem two_sided_constants :
    adssVerifyProto = adssProto ∧ adssRecoverEncryptProto = adssEncryptProto ∧ adssRecoverKeyLen = adssKeyLen ∧
    dleqVerifyChallengeLabel = dleqChallengeLabel := ⟨rfl, rfl, rfl, rfl⟩

end StarModel.Skeleton
