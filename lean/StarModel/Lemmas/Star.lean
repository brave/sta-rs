/-
STAR report generation: payload framing, encryption round trip, structure of a generated report.
-/
import StarModel.Lemmas.Adss
import StarModel.Lemmas.Wire
import StarModel.Props.C08

namespace StarModel.Star
open StarModel.Adss

theorem strobeDigest_length (F : Perm) (key : Bytes) (ads : List Bytes) (label : String) :
    (strobeDigest F key ads label).length = 32 := by
  unfold strobeDigest; simp only; rw [StrobeRng.fillBytes_length]; rfl

theorem deriveRandom_length (F : Perm) (rnd : Bytes) (i : Nat) : (deriveRandom F rnd i).length = 32 :=
  strobeDigest_length F _ _ _

theorem foldl_ad_isReceiver (F : Perm) (ads : List Bytes) (t : Strobe) :
    (ads.foldl (Strobe.ad F) t).isReceiver = t.isReceiver := by
  induction ads generalizing t with
  | nil => rfl
  | cons a as ih => simp only [List.foldl_cons]; rw [ih, Strobe.ad_isReceiver]

theorem decrypt_encrypt (F : Perm) (key data : Bytes) (label : String) :
    decrypt F key (encrypt F key data label) label = data := by
  unfold decrypt encrypt
  exact (Strobe.recvEnc_sendEnc F _ _ (Strobe.Mirror.key_new F _ key) data).1

theorem parsePayload_payload (m : Bytes) (aux : Option Bytes) (hm : m.length < 2 ^ 32)
    (ha : ∀ a, aux = some a → a.length < 2 ^ 32) : parsePayload (payload m aux) = some (m, aux) := by
  rw [parsePayload, payload.eq_def, storeBytes_eq m hm, List.append_assoc, loadBytes_chunk m _ hm]
  simp only [drop_chunk]
  cases aux with
  | none => rfl
  | some a =>
    have h := loadBytes_chunk a [] (ha a rfl)
    rw [List.append_nil] at h
    simp only [storeBytes_eq a (ha a rfl), h]
    rfl -- the chunk of `a` begins with its four length bytes, so `isEmpty` evaluates to `false`

/-- A generated report is a closed formula in the coefficients drawn for `(t, r₀, r₁)`, which all clients
of one `(rnd, t)` share; only `aux` and `x` are the client's own. -/
theorem generate_eq (F : Perm) (fuel : Nat) (m e : Bytes) (t : Nat) (rnd : Bytes) (aux : Option Bytes)
    (x : Nat) :
    generate F fuel m e t rnd aux x =
      (coeffs F fuel none t (deriveRandom F rnd 0) (deriveRandom F rnd 1)).map fun cs => .ok
        ⟨encrypt F (deriveSkeKey F (deriveRandom F rnd 0) e) (payload m aux) Params.starEncryptLabel,
          (dealtOf F none t (deriveRandom F rnd 0) (deriveRandom F rnd 1) cs).shareAt t x,
          deriveRandom F rnd 2⟩ := by
  rw [generate, share_eq]
  cases coeffs F fuel none t (deriveRandom F rnd 0) (deriveRandom F rnd 1) <;> rfl

theorem generate_ok_iff {F : Perm} {fuel : Nat} {m e : Bytes} {t : Nat} {rnd : Bytes} {aux : Option Bytes}
    {x : Nat} {msg : Message} :
    generate F fuel m e t rnd aux x = some (.ok msg) ↔
      ∃ cs, coeffs F fuel none t (deriveRandom F rnd 0) (deriveRandom F rnd 1) = some cs ∧ msg =
        ⟨encrypt F (deriveSkeKey F (deriveRandom F rnd 0) e) (payload m aux) Params.starEncryptLabel,
          (dealtOf F none t (deriveRandom F rnd 0) (deriveRandom F rnd 1) cs).shareAt t x,
          deriveRandom F rnd 2⟩ := by
  rw [generate_eq]; exact Outcome.map_ok_eq_iff

/-- the WASM sharing material (`swlr` = `shareWithLocalRandomness`): `generate` with local randomness
and without the ciphertext -/
theorem swlr_eq (F : Perm) (fuel : Nat) (m e : Bytes) (t x : Nat) :
    shareWithLocalRandomness F fuel m e t x =
      (coeffs F fuel none t (deriveRandom F (sampleLocalRandomness F m e t) 0)
        (deriveRandom F (sampleLocalRandomness F m e t) 1)).map fun cs => .ok
        (deriveSkeKey F (deriveRandom F (sampleLocalRandomness F m e t) 0) e,
          (dealtOf F none t (deriveRandom F (sampleLocalRandomness F m e t) 0)
            (deriveRandom F (sampleLocalRandomness F m e t) 1) cs).shareAt t x,
          deriveRandom F (sampleLocalRandomness F m e t) 2) := by
  rw [shareWithLocalRandomness, share_eq]
  cases coeffs F fuel none t _ _ <;> rfl

theorem swlr_ok_iff {F : Perm} {fuel : Nat} {m e : Bytes} {t x : Nat} {r : Bytes × Adss.Share × Bytes} :
    shareWithLocalRandomness F fuel m e t x = some (.ok r) ↔
      ∃ cs, coeffs F fuel none t (deriveRandom F (sampleLocalRandomness F m e t) 0)
          (deriveRandom F (sampleLocalRandomness F m e t) 1) = some cs ∧ r =
        (deriveSkeKey F (deriveRandom F (sampleLocalRandomness F m e t) 0) e,
          (dealtOf F none t (deriveRandom F (sampleLocalRandomness F m e t) 0)
            (deriveRandom F (sampleLocalRandomness F m e t) 1) cs).shareAt t x,
          deriveRandom F (sampleLocalRandomness F m e t) 2) := by
  rw [swlr_eq]; exact Outcome.map_ok_eq_iff

theorem deriveSkeKey_length (F : Perm) (r e : Bytes) : (deriveSkeKey F r e).length = 16 := by
  unfold deriveSkeKey
  rw [List.length_take, strobeDigest_length]; rfl

theorem shareAt_toBytes_length (F : Perm) (T : Option Strobe) (t : Nat) (M R : Bytes) (cs : List Nat)
    (x : Nat) :
    ((dealtOf F T t M R cs).shareAt t x).toBytes.length = 128 + M.length + R.length := by
  simp only [Adss.Share.toBytes, List.length_append, Bytes.le32_length, storeBytes_length,
    Sharks.shareToBytes_length, dealtOf, Sharks.evaluate, List.length_map, List.length_singleton,
    Strobe.sendEnc_length, macOf_length]
  omega

theorem dealt_share_valid (F : Perm) {t : Nat} (ht32 : t < 2 ^ 32) (M R : Bytes)
    (hM : M.length < 2 ^ 32) (hR : R.length < 2 ^ 32) (cs : List Nat) {x : Nat} (hx : x < Fp.p) :
    Props.C08.AdssValid ((dealtOf F none t M R cs).shareAt t x) := by
  refine ⟨ht32, ⟨hx, List.forall_mem_singleton.mpr ?_⟩, (by decide : 24 * (1 + 1) < 2 ^ 32), ?_, ?_,
    macOf_length F none t M R⟩
  · exact (Sharks.evalPoly_append cs _ x).trans_lt (Fp.add_lt _ _)
  · exact (Strobe.sendEnc_length F _ M).trans_lt hM
  · exact (Strobe.sendEnc_length F _ R).trans_lt hR

theorem derived_share_roundtrip (F : Perm) {t : Nat} (ht32 : t < 2 ^ 32) (rnd : Bytes) (cs : List Nat)
    {x : Nat} (hx : x < Fp.p) :
    Adss.Share.fromBytes
        ((dealtOf F none t (deriveRandom F rnd 0) (deriveRandom F rnd 1) cs).shareAt t x).toBytes =
      .ok ((dealtOf F none t (deriveRandom F rnd 0) (deriveRandom F rnd 1) cs).shareAt t x) := by
  exact Props.C08.C08_adss_roundtrip _ (dealt_share_valid F ht32 _ _ (by rw [deriveRandom_length]; norm_num)
    (by rw [deriveRandom_length]; norm_num) cs hx)

end StarModel.Star
