/-
STROBE duplex lemmas, for every permutation `F`: `duplex` and `beginOp` commute with replacing the
`is_receiver` field; between states that are `Mirror`s, `recv_enc` inverts `send_enc` and `recv_mac` accepts
exactly the bytes `send_mac` emits. Core Lean only.
-/
import StarModel.Strobe

namespace StarModel.Strobe

def withRecv (s : Strobe) (r : Option Bool) : Strobe := { s with isReceiver := r }

@[simp] theorem withRecv_isReceiver (s : Strobe) (r) : (s.withRecv r).isReceiver = r := rfl
@[simp] theorem withRecv_withRecv (s : Strobe) (r r') : (s.withRecv r).withRecv r' = s.withRecv r' := rfl
@[simp] theorem withRecv_self (s : Strobe) : s.withRecv s.isReceiver = s := rfl

theorem runF_withRecv (F : Perm) (s : Strobe) (r) : runF F (s.withRecv r) = (runF F s).withRecv r := rfl

theorem stepByte_withRecv (F : Perm) (m : Mode) (s : Strobe) (r) (b : UInt8) :
    stepByte F m (s.withRecv r) b = ((stepByte F m s b).1.withRecv r, (stepByte F m s b).2) := by
  unfold stepByte
  simp only [withRecv]
  by_cases h : s.pos + 1 = rate
  · simp only [h, if_true]; rfl
  · simp only [h, if_false]

theorem duplex_withRecv (F : Perm) (m : Mode) (s : Strobe) (r) (d : Bytes) :
    duplex F m (s.withRecv r) d = ((duplex F m s d).1.withRecv r, (duplex F m s d).2) := by
  induction d generalizing s with
  | nil => rfl
  | cons b bs ih =>
    simp only [duplex]
    rw [stepByte_withRecv]
    simp only
    rw [ih]

theorem markBegin_withRecv (s : Strobe) (r) : markBegin (s.withRecv r) = (markBegin s).withRecv r := rfl

theorem beginOp_withRecv (F : Perm) (s : Strobe) (r) (fl : UInt8) (force : Bool) :
    beginOp F (s.withRecv r) fl force = (beginOp F s fl force).withRecv r := by
  unfold beginOp
  simp only
  rw [markBegin_withRecv, duplex_withRecv]
  simp only
  have hp : ∀ x : Strobe, (x.withRecv r).pos = x.pos := fun _ => rfl
  have hb : (s.withRecv r).posBegin = s.posBegin := rfl
  rw [hp, hb]
  split
  · rw [runF_withRecv]
  · rfl

theorem isReceiver_of_withRecv {f : Strobe → Strobe} (h : ∀ s r, f (s.withRecv r) = (f s).withRecv r)
    (s : Strobe) : (f s).isReceiver = s.isReceiver := by
  have := congrArg isReceiver (h s s.isReceiver)
  rwa [withRecv_self, withRecv_isReceiver] at this

theorem duplex_isReceiver (F : Perm) (m : Mode) (s : Strobe) (d : Bytes) :
    (duplex F m s d).1.isReceiver = s.isReceiver :=
  isReceiver_of_withRecv (f := fun s => (duplex F m s d).1) (fun s r => by rw [duplex_withRecv]) s

theorem beginOp_isReceiver (F : Perm) (s : Strobe) (fl : UInt8) (force : Bool) :
    (beginOp F s fl force).isReceiver = s.isReceiver :=
  isReceiver_of_withRecv (f := fun s => beginOp F s fl force) (fun s r => beginOp_withRecv F s r fl force) s

theorem duplex_length (F : Perm) (m : Mode) (s : Strobe) (d : Bytes) :
    (duplex F m s d).2.length = d.length := by
  induction d generalizing s with
  | nil => rfl
  | cons b bs ih => simp only [duplex, List.length_cons]; rw [ih]

/-- Two modes in step: if `m'`, fed the output byte of `m`, leaves the state byte `m` leaves and
outputs `g` of the data byte, then `m'` on the output string of `m` leaves the state `m` leaves and
outputs the data mapped by `g`. With `g = id`, `m'` undoes `m` (`duplex_inverse`), so `m` loses nothing
of the data (`duplex_injective`). -/
theorem duplex_sim (F : Perm) {m m' : Mode} {g : UInt8 → UInt8}
    (h : ∀ x b, m' x (m x b).2 = ((m x b).1, g b)) (s : Strobe) (d : Bytes) :
    duplex F m' s (duplex F m s d).2 = ((duplex F m s d).1, d.map g) := by
  induction d generalizing s with
  | nil => rfl
  | cons b bs ih =>
    have hstep : stepByte F m' s (stepByte F m s b).2 = ((stepByte F m s b).1, g b) := by
      unfold stepByte
      simp only [h]
    simp only [duplex, hstep, ih, List.map_cons]

theorem duplex_inverse (F : Perm) {m m' : Mode} (h : ∀ x b, m' x (m x b).2 = ((m x b).1, b))
    (s : Strobe) (d : Bytes) : duplex F m' s (duplex F m s d).2 = ((duplex F m s d).1, d) := by
  rw [duplex_sim F (g := id) h, List.map_id]

theorem duplex_injective (F : Perm) {m m' : Mode} (h : ∀ x b, m' x (m x b).2 = ((m x b).1, b)) (s : Strobe)
    {d d' : Bytes} (e : (duplex F m s d).2 = (duplex F m s d').2) : d = d' := by
  have := congrArg (fun o => (duplex F m' s o).2) e
  simpa only [duplex_inverse F h] using this

theorem exchange_absorbAndSet (x b : UInt8) :
    mExchange x (mAbsorbAndSet x b).2 = ((mAbsorbAndSet x b).1, b) := by
  simp only [mExchange, mAbsorbAndSet, Prod.mk.injEq, true_and]
  rw [UInt8.xor_comm x b, UInt8.xor_assoc, UInt8.xor_self, UInt8.xor_zero]

theorem absorbAndSet_exchange (x b : UInt8) :
    mAbsorbAndSet x (mExchange x b).2 = ((mExchange x b).1, b) := by
  simp only [mExchange, mAbsorbAndSet, Prod.mk.injEq, and_self]
  rw [UInt8.xor_comm b x, ← UInt8.xor_assoc, UInt8.xor_self, UInt8.zero_xor]

/-- sender and receiver are "mirrors": same duplex state, directions unset on both sides or
sender/receiver respectively -/
def Mirror (s s' : Strobe) : Prop :=
  (s.isReceiver = none ∧ s' = s) ∨ (s.isReceiver = some false ∧ s' = s.withRecv (some true))

theorem Mirror.refl_of_none (s : Strobe) (h : s.isReceiver = none) : Mirror s s := Or.inl ⟨h, rfl⟩

theorem Mirror.tFlag {s s' : Strobe} (h : Mirror s s') (base : UInt8) :
    tFlag s false base = (s.withRecv (some false), base) ∧
    tFlag s' true base = (s.withRecv (some true), base) := by
  rcases h with ⟨h, rfl⟩ | ⟨h, rfl⟩ <;> simp [Strobe.tFlag, withRecv, h]

/-- the state in which the transport operation with flag byte `base` (receiving iff `recv`) starts its
data phase: direction fixed, flag byte absorbed -/
def dataPhase (F : Perm) (s : Strobe) (recv : Bool) (base : UInt8) : Strobe :=
  beginOp F (tFlag s recv base).1 (tFlag s recv base).2 true

theorem sendEnc_eq (F : Perm) (s : Strobe) (d : Bytes) :
    sendEnc F s d = duplex F mAbsorbAndSet (dataPhase F s false 0x0E) d := rfl

theorem recvEnc_eq (F : Perm) (s : Strobe) (d : Bytes) :
    recvEnc F s d = duplex F mExchange (dataPhase F s true 0x0E) d := rfl

theorem sendMac_eq (F : Perm) (s : Strobe) (n : Nat) :
    sendMac F s n = duplex F mCopyState (dataPhase F s false 0x0C) (Bytes.zeros n) := rfl

theorem recvMac_eq (F : Perm) (s : Strobe) (mac : Bytes) :
    recvMac F s mac = ((duplex F mExchange (dataPhase F s true 0x0C) mac).1,
      (duplex F mExchange (dataPhase F s true 0x0C) mac).2.all (· == 0)) := rfl

theorem Mirror.dataPhase {s s' : Strobe} (h : Mirror s s') (F : Perm) (base : UInt8) :
    Strobe.dataPhase F s' true base = (Strobe.dataPhase F s false base).withRecv (some true) := by
  unfold Strobe.dataPhase
  rw [(h.tFlag base).1, (h.tFlag base).2]
  exact beginOp_withRecv F (s.withRecv (some false)) (some true) base true

theorem recvEnc_sendEnc (F : Perm) (s s' : Strobe) (h : Mirror s s') (d : Bytes) :
    (recvEnc F s' (sendEnc F s d).2).2 = d ∧ Mirror (sendEnc F s d).1 (recvEnc F s' (sendEnc F s d).2).1 := by
  rw [sendEnc_eq, recvEnc_eq, h.dataPhase, duplex_withRecv, duplex_inverse F exchange_absorbAndSet]
  refine ⟨rfl, Or.inr ⟨?_, rfl⟩⟩
  rw [duplex_isReceiver, dataPhase, beginOp_isReceiver, (h.tFlag _).1]; rfl

theorem recvEnc_injective (F : Perm) (s : Strobe) (c c' : Bytes)
    (h : (recvEnc F s c).2 = (recvEnc F s c').2) : c = c' :=
  duplex_injective F absorbAndSet_exchange _ h

theorem exchange_copyState (x b : UInt8) : mExchange x (mCopyState x b).2 = ((mCopyState x b).1, 0) := by
  simp only [mExchange, mCopyState, UInt8.xor_self]

theorem duplex_exchange_copyState (F : Perm) (s : Strobe) (n : Nat) :
    duplex F mExchange s (duplex F mCopyState s (Bytes.zeros n)).2 =
      ((duplex F mCopyState s (Bytes.zeros n)).1, Bytes.zeros n) := by
  rw [duplex_sim F exchange_copyState, Bytes.zeros, List.map_replicate]

/-- `exchange` yields zeros on what `copy_state` emits from the same state, and is injective -/
theorem duplex_exchange_zero_iff (F : Perm) (s : Strobe) (mac : Bytes) :
    ((duplex F mExchange s mac).2.all (· == 0)) = true ↔
      mac = (duplex F mCopyState s (Bytes.zeros mac.length)).2 := by
  have hz : ((duplex F mExchange s mac).2.all (· == 0)) = true ↔
      (duplex F mExchange s mac).2 = Bytes.zeros mac.length := by
    rw [Bytes.zeros, List.eq_replicate_iff, duplex_length]; simp
  rw [hz]
  constructor
  · intro h
    refine duplex_injective F absorbAndSet_exchange s (h.trans ?_)
    rw [duplex_exchange_copyState]
  · intro h
    have := congrArg Prod.snd (duplex_exchange_copyState F s mac.length)
    rwa [← h] at this

theorem recvMac_iff (F : Perm) (s s' : Strobe) (h : Mirror s s') (mac : Bytes) :
    (recvMac F s' mac).2 = true ↔ mac = (sendMac F s mac.length).2 := by
  rw [recvMac_eq, sendMac_eq, h.dataPhase, duplex_withRecv]
  exact duplex_exchange_zero_iff F _ mac

theorem duplex_exchange_state (F : Perm) (s : Strobe) (mac : Bytes)
    (h : mac = (duplex F mCopyState s (Bytes.zeros mac.length)).2) :
    (duplex F mExchange s mac).1 = (duplex F mCopyState s (Bytes.zeros mac.length)).1 := by
  have := congrArg Prod.fst (duplex_exchange_copyState F s mac.length)
  rwa [← h] at this

theorem recvMac_state (F : Perm) (s s' : Strobe) (h : Mirror s s') (mac : Bytes)
    (hv : (recvMac F s' mac).2 = true) :
    (recvMac F s' mac).1 = (sendMac F s mac.length).1.withRecv (some true) := by
  have hmac := (recvMac_iff F s s' h mac).mp hv
  rw [sendMac_eq] at hmac ⊢
  rw [recvMac_eq, h.dataPhase, duplex_withRecv, duplex_exchange_state F _ mac hmac]

theorem prf_withRecv (F : Perm) (s : Strobe) (r) (n : Nat) :
    prf F (s.withRecv r) n = ((prf F s n).1.withRecv r, (prf F s n).2) := by
  unfold prf operate
  simp only
  rw [beginOp_withRecv, duplex_withRecv]

theorem sendMac_length (F : Perm) (s : Strobe) (n : Nat) : (sendMac F s n).2.length = n := by
  rw [sendMac_eq, duplex_length]; simp [Bytes.zeros]

theorem prf_length (F : Perm) (s : Strobe) (n : Nat) : (prf F s n).2.length = n := by
  unfold prf operate; simp only; rw [duplex_length]; simp [Bytes.zeros]

theorem sendEnc_length (F : Perm) (s : Strobe) (d : Bytes) : (sendEnc F s d).2.length = d.length := by
  rw [sendEnc_eq, duplex_length]

theorem recvEnc_length (F : Perm) (s : Strobe) (d : Bytes) : (recvEnc F s d).2.length = d.length := by
  rw [recvEnc_eq, duplex_length]

theorem key_isReceiver (F : Perm) (s : Strobe) (d : Bytes) : (key F s d).isReceiver = s.isReceiver := by
  unfold key operate; simp only; rw [duplex_isReceiver, beginOp_isReceiver]

theorem ad_isReceiver (F : Perm) (s : Strobe) (d : Bytes) : (ad F s d).isReceiver = s.isReceiver := by
  unfold ad operate; simp only; rw [duplex_isReceiver, beginOp_isReceiver]

theorem metaAd_isReceiver (F : Perm) (s : Strobe) (d : Bytes) : (metaAd F s d).isReceiver = s.isReceiver := by
  unfold metaAd operate; simp only; rw [duplex_isReceiver, beginOp_isReceiver]

theorem new_isReceiver (F : Perm) (proto : Bytes) : (new F proto).isReceiver = none := by
  unfold new operate; simp only; rw [duplex_isReceiver, beginOp_isReceiver]

/-- both parties start an encryption from the same keyed fresh state -/
theorem Mirror.key_new (F : Perm) (proto k : Bytes) :
    Mirror (key F (new F proto) k) (key F (new F proto) k) :=
  .refl_of_none _ (by rw [key_isReceiver, new_isReceiver])

end StarModel.Strobe

theorem StarModel.StrobeRng.fillBytes_length (F : Perm) (g : StrobeRng) (n : Nat) :
    (fillBytes F g n).2.length = n :=
  Strobe.prf_length F _ n
