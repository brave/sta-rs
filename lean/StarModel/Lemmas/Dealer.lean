/-
Structure of what `Sharks::dealer_rng` deals: per secret element one polynomial whose non-constant
coefficients are consecutive `Fp::random` draws of the supplied RNG and whose constant term is the
element; refusal exactly on out-of-range elements.
-/
import StarModel.Lemmas.Recover

namespace StarModel.Sharks

variable {σ : Type}

theorem random_lt (next : σ → σ × Nat) (fuel : Nat) (g g' : σ) (v : Nat) :
    Fp.random next fuel g = some (g', v) → v < Fp.p := by
  fun_induction Fp.random next fuel g <;> intro h
  · cases h
  · -- an accepted attempt is a product mod `p` (`cases` on it would evaluate `montRInv`)
    rename_i hv
    cases h
    revert hv
    fun_cases Fp.randomAttempt _
    · intro hv; rw [← Option.some.inj hv]; exact Fp.mul_lt _ _
    · nofun
  · rename_i ih; exact ih h

theorem drawFp_spec (next : σ → σ × Nat) (fuel n : Nat) (g g' : σ) (vs : List Nat) :
    drawFp next fuel n g = some (g', vs) → vs.length = n ∧ ∀ v ∈ vs, v < Fp.p := by
  fun_induction drawFp next fuel n g generalizing g' vs <;> intro h <;> cases h
  · simp
  · rename_i hv _ _ hvs ih
    obtain ⟨hl, hlt⟩ := ih _ _ hvs
    exact ⟨by rw [List.length_cons, hl], List.forall_mem_cons.mpr ⟨random_lt next fuel _ _ _ hv, hlt⟩⟩

theorem randomNonzero_spec (next : σ → σ × Nat) (fuel k : Nat) (g g' : σ) (x : Nat) :
    randomNonzero next fuel k g = some (g', x) → x ≠ 0 ∧ x < Fp.p := by
  fun_induction randomNonzero next fuel k g <;> intro h
  · cases h
  · cases h
  · rename_i ih; exact ih h
  · rename_i hq hx; cases h; exact ⟨hx, random_lt next fuel _ _ _ hq⟩

/-- the relation "`polys` is what the dealer deals for the decoded elements `elems`, drawing from
`g` and leaving the RNG in state `g'`": polynomial `j` is `(t-1 consecutive draws) ++ [elem j]`,
and the draws of polynomial `j+1` start where those of polynomial `j` ended. -/
inductive DealtFrom (next : σ → σ × Nat) (fuel t : Nat) : List Nat → σ → σ → List (List Nat) → Prop
  | nil (g : σ) : DealtFrom next fuel t [] g g []
  | cons (e : Nat) (es : List Nat) (g g1 g2 : σ) (cs : List Nat) (ps : List (List Nat)) :
      drawFp next fuel (t - 1) g = some (g1, cs) → DealtFrom next fuel t es g1 g2 ps →
      DealtFrom next fuel t (e :: es) g g2 ((cs ++ [e]) :: ps)

theorem randomPolynomial_eq (next : σ → σ × Nat) (fuel s k : Nat) (g : σ) :
    randomPolynomial next fuel s k g = (drawFp next fuel (k - 1) g).map fun r => (r.1, r.2 ++ [s]) := by
  unfold randomPolynomial; cases drawFp next fuel (k - 1) g <;> rfl

/-- what each kind of result of the dealer says about the chunks; `none` (sampling fuel exhausted) says
nothing -/
theorem dealPolys_eq_some (next : σ → σ × Nat) (fuel t : Nat) (cs : List Bytes) (g : σ)
    (o : Outcome (σ × List (List Nat))) :
    dealPolys next fuel t cs g = some o →
    match o with
    | .ok (g', polys) => ∃ elems, cs = elems.map Fp.toRepr ∧ (∀ e ∈ elems, e < Fp.p) ∧
        DealtFrom next fuel t elems g g' polys
    | .err _ => ∃ c ∈ cs, Fp.fromRepr c = none
    | .panic _ => False := by
  fun_induction dealPolys next fuel t cs g generalizing o <;> intro h <;> cases h
  · exact ⟨[], rfl, nofun, .nil _⟩
  · exact ⟨_, List.mem_cons_self, ‹_›⟩
  · rename_i c cs g e hc g1 poly hp g2 ps hps ih
    obtain ⟨elems, rfl, hlt, hdf⟩ := ih _ hps
    obtain ⟨he, rfl⟩ := (Fp.fromRepr_iff c e).mp hc
    rw [randomPolynomial_eq, Option.map_eq_some_iff] at hp
    obtain ⟨⟨_, coeffs⟩, hd, hp⟩ := hp
    cases hp
    exact ⟨e :: elems, rfl, List.forall_mem_cons.mpr ⟨he, hlt⟩, .cons e elems g _ _ coeffs ps hd hdf⟩
  · rename_i ih
    obtain ⟨c, hc, hn⟩ := ih _ ‹_›
    exact ⟨c, List.mem_cons_of_mem _ hc, hn⟩
  · rename_i ih
    exact ih _ ‹_›

theorem dealPolys_singleton (next : σ → σ × Nat) (fuel t : Nat) (c : Bytes) (g : σ) (e : Nat)
    (hc : Fp.fromRepr c = some e) :
    dealPolys next fuel t [c] g = (drawFp next fuel (t - 1) g).map fun r => .ok (r.1, [r.2 ++ [e]]) := by
  simp only [dealPolys, hc, randomPolynomial]
  cases drawFp next fuel (t - 1) g <;> rfl

theorem DealtFrom.length {next : σ → σ × Nat} {fuel t : Nat} {elems : List Nat} {g g' : σ}
    {polys : List (List Nat)} (h : DealtFrom next fuel t elems g g' polys) : polys.length = elems.length := by
  induction h with
  | nil => rfl
  | cons _ _ _ _ _ _ _ _ _ ih => simp [ih]

theorem DealtFrom.singleton {next : σ → σ × Nat} {fuel t : Nat} {e : Nat} {g g' : σ}
    {polys : List (List Nat)} (h : DealtFrom next fuel t [e] g g' polys) :
    ∃ cs, polys = [cs ++ [e]] ∧ drawFp next fuel (t - 1) g = some (g', cs) := by
  cases h with
  | cons _ _ _ g1 _ cs ps hdraw hrest =>
    cases hrest
    exact ⟨cs, rfl, hdraw⟩

theorem DealtFrom.dealt {next : σ → σ × Nat} {fuel t : Nat} (ht : 1 ≤ t) {elems : List Nat} {g g' : σ}
    {polys : List (List Nat)} (h : DealtFrom next fuel t elems g g' polys)
    (hel : ∀ e ∈ elems, e < Fp.p) :
    Dealt t polys ∧ secretOf polys = (elems.map Fp.toRepr).flatten ∧
      ∀ poly ∈ polys, ∀ c ∈ poly, c < Fp.p := by
  induction h with
  | nil g => exact ⟨nofun, rfl, nofun⟩
  | cons e es g g1 g2 cs ps hd _ ih =>
    obtain ⟨hl, hlt⟩ := drawFp_spec next fuel _ _ _ _ hd
    rw [List.forall_mem_cons] at hel
    obtain ⟨h1, h2, h3⟩ := ih hel.2
    refine ⟨List.forall_mem_cons.mpr ⟨⟨?_, cs, e, rfl, hel.1⟩, h1⟩,
      by rw [List.map_cons, List.flatten_cons, ← h2, secretOf, List.map_cons, List.flatten_cons,
        List.getLastD_concat]; rfl, List.forall_mem_cons.mpr ⟨?_, h3⟩⟩
    · rw [List.length_append, hl, List.length_singleton, Nat.sub_add_cancel ht]
    · simp only [List.mem_append, List.mem_singleton]
      rintro c (hc | rfl)
      exacts [hlt c hc, hel.1]

theorem chunks_flatten (k : Nat) (bs : Bytes) : (chunks 24 k bs).flatten = bs.take (24 * k) := by
  induction k with
  | zero => rfl
  | succ k ih =>
    unfold chunks at ih ⊢
    rw [List.range_succ, List.map_append, List.flatten_append, ih, Nat.mul_succ, List.take_add,
      Nat.mul_comm 24 k]
    simp only [List.map_cons, List.map_nil, List.flatten_cons, List.flatten_nil, List.append_nil]

end StarModel.Sharks
