/-
Base64 (`StarModel.Base64`): the alphabet, block arithmetic, and decoding as the exact inverse of
encoding; in namespace `Base64.Sym`, the symbols of encoded text (`IsSymbol`) and the characters it
cannot contain (`"`, `\`, newline, which the JSON and newline-separated formats rely on).
Core Lean only.
-/
import StarModel.Base64

namespace StarModel.Base64

theorem decChar_encChar : ∀ k, k < 64 → decChar (encChar k) = some k := by decide +kernel

/-- values from 63 on all encode as the last symbol, so a fact about the 64 symbols is a fact
about every `encChar n` -/
theorem encChar_min (n : Nat) : encChar n = encChar (min n 63) := by
  by_cases h : n < 63
  · rw [Nat.min_eq_left (by omega)]
  · rw [Nat.min_eq_right (by omega)]
    unfold encChar
    rw [if_neg (by omega), if_neg (by omega), if_neg (by omega), if_neg (by omega)]
    rfl

theorem encChar_ne_of_decChar_none {c : Char} (h : decChar c = none) (n : Nat) : encChar n ≠ c := by
  intro e
  have := decChar_encChar (min n 63) (by omega)
  rw [← encChar_min, e, h] at this
  cases this

theorem decChar_eq_some_iff (c : Char) (x : Nat) : decChar c = some x ↔ x < 64 ∧ encChar x = c := by
  refine ⟨?_, fun ⟨hx, hc⟩ => hc ▸ decChar_encChar x hx⟩
  have hc := Char.ofNat_toNat c
  fun_cases decChar c with
  | case1 _ h =>
    intro e; cases e
    exact ⟨by omega, by rw [encChar, if_pos (by omega), Nat.add_sub_of_le h.1, hc]⟩
  | case2 _ _ h =>
    intro e; cases e
    exact ⟨by omega, by
      rw [encChar, if_neg (by omega), if_pos (by omega), Nat.add_sub_cancel, Nat.add_sub_of_le h.1, hc]⟩
  | case3 _ _ _ h =>
    intro e; cases e
    exact ⟨by omega, by
      rw [encChar, if_neg (by omega), if_neg (by omega), if_pos (by omega), Nat.add_sub_cancel,
        Nat.add_sub_of_le h.1, hc]⟩
  | case4 _ _ _ _ h => rintro ⟨⟩; exact ⟨by decide, h ▸ rfl⟩
  | case5 _ _ _ _ _ h => rintro ⟨⟩; exact ⟨by decide, h ▸ rfl⟩
  | case6 => nofun

theorem forall_mem_encodeChars {P : Char → Prop} (hsym : ∀ k, k < 64 → P (encChar k)) (hpad : P '=')
    (bs : Bytes) : ∀ c ∈ encodeChars bs, P c := by
  have hP : ∀ n, P (encChar n) := fun n => by rw [encChar_min]; exact hsym _ (by omega)
  induction bs using encodeChars.induct with
  | case1 => simp [encodeChars]
  | case2 a => simp [encodeChars, hP, hpad]
  | case3 a b => simp [encodeChars, hP, hpad]
  | case4 a b c rest ih => simpa [encodeChars, hP] using ih

/-! Three bytes are four sextets of the same 24-bit number. The arithmetic of the three block shapes
(3, 2, 1 bytes), in both directions, over `Nat`, by positional notation: `mul_add_div_of_lt` and
`Nat.mul_add_mod_of_lt` read the two digits of `q * B + r`, and a window `m % (B * C)` of a number falls
into an upper and a lower part (`div_mul_add_mod_div`, `div_mod_mul_add_mod`). The literals are products
up to evaluation (`262144 = 4096 * 64`), which is how `Nat.div_div_eq_div_mul` applies to them. -/

theorem mul_add_div_of_lt {b c : Nat} (a : Nat) (h : c < b) : (a * b + c) / b = a := by
  rw [Nat.mul_comm, Nat.mul_add_div (Nat.zero_lt_of_lt h), Nat.div_eq_of_lt h, Nat.add_zero]

theorem mul_add_lt_mul {a b c d : Nat} (ha : a < c) (hb : b < d) : a * d + b < c * d :=
  Nat.lt_of_lt_of_le (Nat.add_lt_add_left hb _) (Nat.succ_mul a d ▸ Nat.mul_le_mul_right d ha)

theorem div_mul_add_mod_div (m B C : Nat) : m / (B * C) * C + m % (B * C) / B = m / B := by
  rw [Nat.mod_mul_right_div_self, ← Nat.div_div_eq_div_mul, Nat.div_add_mod']

theorem div_mod_mul_add_mod (m B C : Nat) : m / B % C * B + m % B = m % (B * C) := by
  rw [Nat.mod_mul, Nat.add_comm, Nat.mul_comm]

theorem bytes_of_sextets3 {a b c n : Nat} (ha : a < 256) (hb : b < 256) (hc : c < 256)
    (hn : n = a * 65536 + b * 256 + c) :
    n / 262144 < 64 ∧ n / 262144 * 4 + n / 4096 % 64 / 16 = a ∧
      n / 4096 % 64 % 16 * 16 + n / 64 % 64 / 4 = b ∧ n / 64 % 64 % 4 * 64 + n % 64 = c := by
  -- `a`, `b`, `c` are the base-256 digits of `n`
  rw [show a * 65536 + b * 256 + c = (a * 256 + b) * 256 + c by rw [Nat.add_mul, Nat.mul_assoc]] at hn
  have da : n / 256 / 256 = a := by rw [hn, mul_add_div_of_lt _ hc, mul_add_div_of_lt _ hb]
  have db : n / 256 % 256 = b := by rw [hn, mul_add_div_of_lt _ hc, Nat.mul_add_mod_of_lt hb]
  have dc : n % 256 = c := by rw [hn, Nat.mul_add_mod_of_lt hc]
  refine ⟨?_, ?_, ?_, ?_⟩
  · rw [← Nat.div_div_eq_div_mul n 65536 4, ← Nat.div_div_eq_div_mul n 256 256, da]
    exact Nat.div_lt_of_lt_mul ha
  · rw [← da, Nat.div_div_eq_div_mul, ← Nat.div_div_eq_div_mul n 4096 64,
      ← Nat.div_div_eq_div_mul n 4096 16]
    exact div_mul_add_mod_div (n / 4096) 16 4
  · rw [← db, Nat.mod_mul_right_mod _ 16 4, Nat.mod_mul_right_div_self (n / 64) 4 16,
      Nat.div_div_eq_div_mul, ← Nat.div_div_eq_div_mul n 256 16]
    exact div_mod_mul_add_mod (n / 256) 16 16
  · rw [← dc, Nat.mod_mul_right_mod _ 4 16]
    exact div_mod_mul_add_mod n 64 4

theorem bytes_of_sextets2 {a b n : Nat} (ha : a < 256) (hb : b < 256) (hn : n = a * 256 + b) :
    n / 1024 < 64 ∧ n % 16 * 4 < 64 ∧ n % 16 * 4 % 4 = 0 ∧ n / 1024 * 4 + n / 16 % 64 / 16 = a ∧
      n / 16 % 64 % 16 * 16 + n % 16 * 4 / 4 = b := by
  have da : n / 256 = a := hn ▸ mul_add_div_of_lt a hb
  have db : n % 256 = b := hn ▸ Nat.mul_add_mod_of_lt hb
  refine ⟨?_, Nat.mul_lt_mul_of_pos_right (Nat.mod_lt _ (by decide)) (by decide), Nat.mul_mod_left _ _,
    ?_, ?_⟩
  · rw [← Nat.div_div_eq_div_mul n 256 4, da]
    exact Nat.div_lt_of_lt_mul ha
  · rw [← da, ← Nat.div_div_eq_div_mul n 16 64, ← Nat.div_div_eq_div_mul n 16 16]
    exact div_mul_add_mod_div (n / 16) 16 4
  · rw [← db, Nat.mod_mul_right_mod _ 16 4, Nat.mul_div_cancel _ (by decide)]
    exact div_mod_mul_add_mod n 16 16

theorem bytes_of_sextets1 {a : Nat} (ha : a < 256) :
    a / 4 < 64 ∧ a % 4 * 16 < 64 ∧ a % 4 * 16 % 16 = 0 ∧ a / 4 * 4 + a % 4 * 16 / 16 = a :=
  ⟨Nat.div_lt_of_lt_mul ha, Nat.mul_lt_mul_of_pos_right (Nat.mod_lt _ (by decide)) (by decide),
    Nat.mul_mod_left _ _, by rw [Nat.mul_div_cancel _ (by decide), Nat.div_add_mod']⟩

theorem sextets_of_bytes3 {x y z w : Nat} (hx : x < 64) (hy : y < 64) (hz : z < 64) (hw : w < 64) :
    x * 4 + y / 16 < 256 ∧ y % 16 * 16 + z / 4 < 256 ∧ z % 4 * 64 + w < 256 ∧
    ∀ n, n = (x * 4 + y / 16) * 65536 + (y % 16 * 16 + z / 4) * 256 + (z % 4 * 64 + w) →
      n / 262144 = x ∧ n / 4096 % 64 = y ∧ n / 64 % 64 = z ∧ n % 64 = w := by
  refine ⟨mul_add_lt_mul hx (Nat.div_lt_of_lt_mul hy),
    mul_add_lt_mul (Nat.mod_lt _ (by decide)) (Nat.div_lt_of_lt_mul hz),
    mul_add_lt_mul (Nat.mod_lt _ (by decide)) hw, fun n hn => ?_⟩
  -- the three bytes make the number whose base-64 digits are `x`, `y`, `z`, `w`
  have e : n = ((x * 64 + y) * 64 + z) * 64 + w := by
    rw [hn]
    conv => rhs; rw [← Nat.div_add_mod' y 16, ← Nat.div_add_mod' z 4]
    simp +arith
  rw [e, ← Nat.div_div_eq_div_mul _ 64 4096, ← Nat.div_div_eq_div_mul _ 64 64,
    ← Nat.div_div_eq_div_mul _ 64 64, mul_add_div_of_lt _ hw, mul_add_div_of_lt _ hz,
    mul_add_div_of_lt _ hy, Nat.mul_add_mod_of_lt hw, Nat.mul_add_mod_of_lt hz, Nat.mul_add_mod_of_lt hy]
  exact ⟨rfl, rfl, rfl, rfl⟩

theorem sextets_of_bytes2 {x y z : Nat} (hx : x < 64) (hy : y < 64) (hz : z < 64) (h0 : z % 4 = 0) :
    x * 4 + y / 16 < 256 ∧ y % 16 * 16 + z / 4 < 256 ∧
    ∀ n, n = (x * 4 + y / 16) * 256 + (y % 16 * 16 + z / 4) →
      n / 1024 = x ∧ n / 16 % 64 = y ∧ n % 16 * 4 = z := by
  have hq : z / 4 < 16 := Nat.div_lt_of_lt_mul hz
  refine ⟨mul_add_lt_mul hx (Nat.div_lt_of_lt_mul hy), mul_add_lt_mul (Nat.mod_lt _ (by decide)) hq,
    fun n hn => ?_⟩
  have e : n = (x * 64 + y) * 16 + z / 4 := by
    rw [hn]
    conv => rhs; rw [← Nat.div_add_mod' y 16]
    simp +arith
  rw [e, ← Nat.div_div_eq_div_mul _ 16 64, mul_add_div_of_lt _ hq, mul_add_div_of_lt _ hy,
    Nat.mul_add_mod_of_lt hy, Nat.mul_add_mod_of_lt hq, Nat.div_mul_cancel (Nat.dvd_of_mod_eq_zero h0)]
  exact ⟨rfl, rfl, rfl⟩

theorem sextets_of_bytes1 {x y : Nat} (hx : x < 64) (hy : y < 64) (h0 : y % 16 = 0) :
    x * 4 + y / 16 < 256 ∧ (x * 4 + y / 16) / 4 = x ∧ (x * 4 + y / 16) % 4 * 16 = y := by
  have hq : y / 16 < 4 := Nat.div_lt_of_lt_mul hy
  exact ⟨mul_add_lt_mul hx hq, mul_add_div_of_lt x hq,
    by rw [Nat.mul_add_mod_of_lt hq, Nat.div_mul_cancel (Nat.dvd_of_mod_eq_zero h0)]⟩

theorem decodeChars_encodeChars (bs : Bytes) : decodeChars (encodeChars bs) = some bs := by
  have hp : ∀ n, encChar n ≠ '=' := encChar_ne_of_decChar_none rfl
  have h64 : ∀ n, n % 64 < 64 := fun n => Nat.mod_lt _ (by decide)
  induction bs using encodeChars.induct with
  | case1 => rfl
  | case2 a =>
    obtain ⟨hx, hy, h0, ea⟩ := bytes_of_sextets1 a.toNat_lt
    simp only [encodeChars]
    rw [decodeChars.eq_2, decChar_encChar _ hx, decChar_encChar _ hy]
    simp only [Option.bind_eq_bind, Option.bind_some, h0, ne_eq, not_true_eq_false, if_false, ea,
      UInt8.ofNat_toNat, Option.pure_def]
  | case3 a b =>
    obtain ⟨hx, hz, h0, ea, eb⟩ := bytes_of_sextets2 a.toNat_lt b.toNat_lt rfl
    simp only [encodeChars]
    rw [decodeChars.eq_3 _ _ _ (hp _), decChar_encChar _ hx, decChar_encChar _ (h64 _),
      decChar_encChar _ hz]
    simp only [Option.bind_eq_bind, Option.bind_some, h0, ne_eq, not_true_eq_false, if_false, ea, eb,
      UInt8.ofNat_toNat, Option.pure_def]
  | case4 a b c rest ih =>
    obtain ⟨hx, ea, eb, ec⟩ := bytes_of_sextets3 a.toNat_lt b.toNat_lt c.toNat_lt rfl
    simp only [encodeChars]
    rw [decodeChars.eq_4 _ _ _ _ _ (fun _ h _ => hp _ h) (fun h _ => hp _ h), decChar_encChar _ hx,
      decChar_encChar _ (h64 _), decChar_encChar _ (h64 _), decChar_encChar _ (h64 _), ih]
    simp only [Option.bind_eq_bind, Option.bind_some, ea, eb, ec, UInt8.ofNat_toNat, Option.pure_def]

theorem encodeChars_of_decodeChars (cs : List Char) :
    ∀ bs, decodeChars cs = some bs → encodeChars bs = cs := by
  induction cs using decodeChars.induct with
  | case1 => intro bs h; rw [decodeChars.eq_1] at h; cases h; rfl
  | case2 a b =>
    intro bs h
    simp only [decodeChars.eq_2, Option.bind_eq_bind, Option.bind_eq_some_iff, decChar_eq_some_iff,
      Option.pure_def, Option.ite_none_left_eq_some, Option.some.injEq, ne_eq, Decidable.not_not] at h
    obtain ⟨x, ⟨lx, rfl⟩, y, ⟨ly, rfl⟩, h0, rfl⟩ := h
    obtain ⟨ha, ex, ey⟩ := sextets_of_bytes1 lx ly h0
    simp only [encodeChars, UInt8.toNat_ofNat_of_lt' ha, ex, ey]
  | case3 a b c hc =>
    intro bs h
    simp only [decodeChars.eq_3 _ _ _ hc, Option.bind_eq_bind, Option.bind_eq_some_iff,
      decChar_eq_some_iff, Option.pure_def, Option.ite_none_left_eq_some, Option.some.injEq, ne_eq,
      Decidable.not_not] at h
    obtain ⟨x, ⟨lx, rfl⟩, y, ⟨ly, rfl⟩, z, ⟨lz, rfl⟩, h0, rfl⟩ := h
    obtain ⟨ha, hb, e⟩ := sextets_of_bytes2 lx ly lz h0
    obtain ⟨ex, ey, ez⟩ := e _ rfl
    simp only [encodeChars, UInt8.toNat_ofNat_of_lt' ha, UInt8.toNat_ofNat_of_lt' hb, ex, ey, ez]
  | case4 a b c d rest h1 h2 ih =>
    intro bs h
    simp only [decodeChars.eq_4 _ _ _ _ _ h1 h2, Option.bind_eq_bind, Option.bind_eq_some_iff,
      decChar_eq_some_iff, Option.pure_def, Option.some.injEq] at h
    obtain ⟨x, ⟨lx, rfl⟩, y, ⟨ly, rfl⟩, z, ⟨lz, rfl⟩, w, ⟨lw, rfl⟩, r, hr, rfl⟩ := h
    obtain ⟨ha, hb, hc, e⟩ := sextets_of_bytes3 lx ly lz lw
    obtain ⟨ex, ey, ez, ew⟩ := e _ rfl
    simp only [encodeChars, UInt8.toNat_ofNat_of_lt' ha, UInt8.toNat_ofNat_of_lt' hb,
      UInt8.toNat_ofNat_of_lt' hc, ex, ey, ez, ew, ih r hr]
  | case5 t h1 h2 h3 h4 => intro bs h; rw [decodeChars.eq_5 t h1 h2 h3 h4] at h; cases h

theorem decodeChars_eq_some_iff (cs : List Char) (bs : Bytes) :
    decodeChars cs = some bs ↔ cs = encodeChars bs :=
  ⟨fun h => (encodeChars_of_decodeChars cs bs h).symm, fun h => h ▸ decodeChars_encodeChars bs⟩

theorem decode_encode (bs : Bytes) : decode (encode bs) = some bs := by
  rw [decode, encode, String.toList_ofList, decodeChars_encodeChars]

theorem encode_injective {a b : Bytes} (h : encode a = encode b) : a = b :=
  Option.some.inj (by rw [← decode_encode a, h, decode_encode])

end StarModel.Base64

namespace StarModel.Base64.Sym

/-- the 64 symbols of the standard alphabet, and the padding symbol -/
def IsSymbol (c : Char) : Prop := (decChar c).isSome = true ∨ c = '='

theorem encChar_ne (n : Nat) : encChar n ≠ '=' ∧ encChar n ≠ '"' ∧ encChar n ≠ '\\' ∧ encChar n ≠ '\n' :=
  ⟨encChar_ne_of_decChar_none rfl n, encChar_ne_of_decChar_none rfl n, encChar_ne_of_decChar_none rfl n,
    encChar_ne_of_decChar_none rfl n⟩

theorem encodeChars_symbols (bs : Bytes) : ∀ c ∈ encodeChars bs, IsSymbol c :=
  forall_mem_encodeChars (fun k hk => Or.inl (by rw [decChar_encChar k hk]; rfl)) (Or.inr rfl) bs

theorem IsSymbol.ne {c : Char} (h : IsSymbol c) : c ≠ '"' ∧ c ≠ '\\' ∧ c ≠ '\n' := by
  rcases h with h | rfl
  · obtain ⟨x, hx⟩ := Option.isSome_iff_exists.mp h
    obtain ⟨_, rfl⟩ := (decChar_eq_some_iff c x).mp hx
    exact (encChar_ne x).2
  · decide

theorem encodeChars_no_newline (bs : Bytes) : '\n' ∉ encodeChars bs :=
  fun h => (encodeChars_symbols bs _ h).ne.2.2 rfl

end StarModel.Base64.Sym
